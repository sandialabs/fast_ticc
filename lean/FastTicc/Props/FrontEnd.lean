/-
Front-end theorems: the composed models of `ticc_labels` and `ticc_joint_labels`
(`FrontEnd.single`, `FrontEnd.joint`) — stacking ∘ whole fit ∘ split ∘ pad — return one label per
input row with the unlabeled margin exactly where C04 says, for every data set, every oracle and
every limit; the joint front end hands the kernel exactly the concatenation of the per-series
stackings (C10), and the switching cost that reaches the kernel is `beta` on within-series pairs and
`0` on boundary pairs when the mask is applied (`masked = true`), the caller's `beta` everywhere as the
code is (`masked = false`, known finding K1).
-/
import FastTicc.Model.FrontEnd
import FastTicc.Props.Final
import FastTicc.Props.C04
import FastTicc.Props.C10
import FastTicc.Props.C07mask
import FastTicc.Props.C07

namespace FastTicc.FrontEnd
open FastTicc FastTicc.Stack FastTicc.Viterbi

variable {α : Type} [Field α] [LinearOrder α] [IsStrictOrderedRing α]

omit [IsStrictOrderedRing α] in
theorem single_ok (a : Args α) (orc : Run.Oracles α) (init : List Nat) (data : List (List α))
    (out : Out α) (h : single a orc init data = .ok out) :
    ∃ rep, Final.fit (runInput a (stack data a.W) ((List.range (stack data a.W).length).map a.beta))
        orc a.logT a.thr a.biased a.limit init = .ok rep ∧
      out = ⟨rep, [padMissing (rep.labels.map Int.ofNat) a.W]⟩ := by
  unfold single at h
  dsimp only at h
  split at h
  · next rep hf => exact ⟨rep, hf, (Except.ok.inj h).symm⟩
  · cases h

omit [IsStrictOrderedRing α] in
theorem joint_ok (masked : Bool) (a : Args α) (orc : Run.Oracles α) (init : List Nat)
    (series : List (List (List α))) (out : Out α) (h : joint masked a orc init series = .ok out) :
    ∃ rep, Final.fit (runInput a (stackMulti series a.W)
          (jointBetas masked a (series.map (fun s => stackedLen s.length a.W))))
        orc a.logT a.thr a.biased a.limit init = .ok rep ∧
      out = ⟨rep, splitAndPad (rep.labels.map Int.ofNat)
        (series.map (fun s => stackedLen s.length a.W)) a.W⟩ := by
  unfold joint at h
  dsimp only at h
  split at h
  · next rep hf => exact ⟨rep, hf, (Except.ok.inj h).symm⟩
  · cases h

omit [Field α] [LinearOrder α] [IsStrictOrderedRing α] in
theorem stackMulti_length_pos (series : List (List (List α))) (W : Nat)
    (hne : ∃ s ∈ series, W ≤ s.length) : 0 < (stackMulti series W).length := by
  obtain ⟨s, hs, hsl⟩ := hne
  rw [stackMulti_length]
  exact List.sum_pos_iff_exists_pos_nat.2
    ⟨_, List.mem_map.2 ⟨s, hs, rfl⟩, stackedLen_pos hsl⟩

/-- SINGLE front end: exactly one label list, with one entry per input row; the first `⌊(W−1)/2⌋`
and the last `(W−1) − ⌊(W−1)/2⌋` entries are the marker `-1`, every other entry is a label in
`[0, K)` — and that middle part is the labelling the fit returned. -/
theorem single_labels_shape (a : Args α) (orc : Run.Oracles α) (init : List Nat)
    (data : List (List α)) (hW : 1 ≤ a.W) (hT : a.W ≤ data.length) (hK : 0 < a.K) (hl : 1 ≤ a.limit)
    (out : Out α) (h : single a orc init data = .ok out) :
    ∃ l, out.labels = [l] ∧ l.length = data.length ∧
      (∀ i, i < frontLen a.W → l[i]? = some (-1)) ∧
      (∀ i, i < backLen a.W → l[frontLen a.W + (data.length + 1 - a.W) + i]? = some (-1)) ∧
      (∀ i, i < data.length + 1 - a.W →
        ∃ c : Nat, l[frontLen a.W + i]? = some (c : Int) ∧ c < a.K ∧ out.report.labels[i]? = some c) := by
  obtain ⟨rep, hf, rfl⟩ := single_ok a orc init data out h
  have hlen : (stack data a.W).length = data.length + 1 - a.W := stack_rows data a.W
  obtain ⟨hl1, hl2⟩ := Final.report_labels_valid _ orc a.logT a.thr a.biased hK
    (show 0 < (stack data a.W).length by rw [hlen]; exact stackedLen_pos hT) a.limit hl init rep hf
  have hn : rep.labels.length = data.length + 1 - a.W := hl1.trans hlen
  have hmap : (rep.labels.map Int.ofNat).length = data.length + 1 - a.W := by
    rw [List.length_map, hn]
  refine ⟨_, rfl, ?_, fun i hi => pad_front _ a.W i hi, fun i hi => ?_, fun i hi => ?_⟩
  · exact single_result_length _ data.length a.W hW hT hmap
  · rw [← hmap]
    exact pad_back _ a.W i hi
  · have hi' : i < rep.labels.length := by rw [hn]; exact hi
    exact ⟨rep.labels[i], pad_middle_map rep.labels Int.ofNat a.W i hi',
      hl2 _ (List.getElem_mem hi'), List.getElem?_eq_getElem hi'⟩

/-- JOINT front end: one label list per input series, in input order, each as long as its own series
(series may differ in length), whose unpadded middles concatenated are the labelling the single fit
of the concatenated stackings returned. -/
theorem joint_labels_shape (masked : Bool) (a : Args α) (orc : Run.Oracles α) (init : List Nat)
    (series : List (List (List α))) (hW : 1 ≤ a.W) (hT : ∀ s ∈ series, a.W ≤ s.length)
    (hne : ∃ s ∈ series, a.W ≤ s.length) (hK : 0 < a.K) (hl : 1 ≤ a.limit)
    (out : Out α) (h : joint masked a orc init series = .ok out) :
    out.labels.map List.length = series.map List.length ∧
      (splitJoint (out.report.labels.map Int.ofNat)
        (series.map (fun s => stackedLen s.length a.W))).flatten = out.report.labels.map Int.ofNat ∧
      out.report.labels.length = (stackMulti series a.W).length ∧ ∀ c ∈ out.report.labels, c < a.K := by
  obtain ⟨rep, hf, rfl⟩ := joint_ok masked a orc init series out h
  obtain ⟨hl1, hl2⟩ := Final.report_labels_valid _ orc a.logT a.thr a.biased hK
    (stackMulti_length_pos series a.W hne) a.limit hl init rep hf
  have hj : (rep.labels.map Int.ofNat).length
      = (series.map (fun s => stackedLen s.length a.W)).sum := by
    rw [List.length_map, ← stackMulti_length]
    exact hl1
  refine ⟨?_, splitJoint_flatten _ _ hj, hl1, hl2⟩
  show (splitAndPad _ _ a.W).map List.length = _
  rw [splitAndPad_lengths _ _ _ hj, List.map_map]
  exact List.map_congr_left fun s hs => stackedLen_add_pad hW (hT s hs)

omit [LinearOrder α] [IsStrictOrderedRing α] in
/-- the data the joint fit sees is the concatenation, in order, of the per-series stackings: no
window mixes rows of two series (C10 on the composed front end). -/
theorem joint_data_is_concatenation (a : Args α) (series : List (List (List α))) (betas : List α) :
    (runInput a (stackMulti series a.W) betas).data
      = dataFn ((series.map (fun s => stack s a.W)).flatten) := by
  rw [stackMulti_eq_flatten]
  rfl

omit [LinearOrder α] [IsStrictOrderedRing α] in
/-- the switching cost that reaches the kernel in a joint run.  With the mask applied it is `beta` on
every pair inside a series and `0` on every pair that straddles two series; as the code is
(`masked = false`) it is the caller's `beta` on every pair (known finding K1). -/
theorem jointBetas_spec (masked : Bool) (a : Args α) (lens : List Nat) (hpos : ∀ l ∈ lens, 0 < l)
    (i : Nat) (hi : i < lens.sum) :
    (jointBetas masked a lens)[i]? =
      some (if masked ∧ seriesOf lens i ≠ seriesOf lens (i + 1) ∧ i + 1 < lens.sum then 0 else a.beta i) := by
  unfold jointBetas
  rw [List.getElem?_map, List.getElem?_range hi, Option.map_some]
  cases masked with
  | false => simp
  | true =>
    rw [List.getD_eq_getElem?_getD, mask_getElem? lens hpos i hi, Option.getD_some]
    by_cases hP : seriesOf lens i ≠ seriesOf lens (i + 1) ∧ i + 1 < lens.sum
    · simp [hP]
    · simp [hP]

omit [LinearOrder α] [IsStrictOrderedRing α] in
theorem jointBetas_masked_scalar (a : Args α) (b : α) (hb : a.beta = fun _ => b) (lens : List Nat) :
    jointBetas true a lens = Joint.jointBeta b lens := by
  unfold jointBetas Joint.jointBeta
  conv => rhs; rw [← map_getD_range (maskTemplate lens) 1, maskTemplate_length']
  simp [hb]

omit [LinearOrder α] [IsStrictOrderedRing α] in
theorem costPoints_eq_zip (inp : Run.Input α) (orc : Run.Oracles α) (s : Run.St α)
    (hlen : inp.betas.length = inp.T) :
    Run.costPoints inp orc s = withVectorBeta ((Run.costPoints inp orc s).map (·.1)) inp.betas := by
  have hsnd : (Run.costPoints inp orc s).map (·.2) = inp.betas := by
    rw [Run.costPoints, List.map_map, ← hlen]
    exact map_getD_range inp.betas 0
  rw [withVectorBeta, ← hsnd]
  exact (List.zip_unzip (Run.costPoints inp orc s)).symm.trans (by rw [List.unzip_eq_map])

theorem fit_masked_within_optimal (inp : Run.Input α) (orc : Run.Oracles α) (logT thr : α)
    (biased : Bool) (limit : Nat) (init : List Nat) (b : α) (hb0 : 0 ≤ b) (lens : List Nat)
    (hpos : ∀ n ∈ lens, 0 < n) (hT : inp.T = lens.sum) (hbetas : inp.betas = Joint.jointBeta b lens)
    (hK : 0 < inp.K) (hTpos : 0 < inp.T) (hl : 1 ≤ limit) (rep : Final.Report α)
    (hf : Final.fit inp orc logT thr biased limit init = .ok rep) :
    ∃ rows : List (Nat → α), rows.length = lens.sum ∧
      rep.cost = Joint.withinObjective rows b lens rep.labels ∧
      ∀ q, q.length = lens.sum → (∀ l ∈ q, l < inp.K) →
        rep.cost ≤ Joint.withinObjective rows b lens q := by
  have hbl : inp.betas.length = inp.T := by
    rw [hbetas, hT, Joint.jointBeta, List.length_map, maskTemplate_length']
  have hbnn : ∀ x ∈ inp.betas, 0 ≤ x := by
    rw [hbetas]
    exact Joint.jointBeta_nonneg b hb0 lens
  have hvalid := Final.report_labels_valid inp orc logT thr biased hK hTpos limit hl init rep hf
  obtain ⟨o, hr, rfl⟩ := Final.fit_ok hf
  obtain ⟨sFit, _, _, hcost, hopt⟩ :=
    Run.run_returned_optimal inp orc hK hTpos hbnn limit hl init o hr
  have hrl : ((Run.costPoints inp orc sFit).map (·.1)).length = lens.sum := by
    rw [List.length_map, Run.costPoints_length, hT]
  -- the kernel's objective on this table is the within-series objective
  have hobj : ∀ q : List Nat, q.length = lens.sum → totalCost (Run.costPoints inp orc sFit) q
      = Joint.withinObjective ((Run.costPoints inp orc sFit).map (·.1)) b lens q := by
    intro q hq
    have hz := costPoints_eq_zip inp orc sFit hbl
    rw [hbetas] at hz
    exact (congrArg (totalCost · q) hz).trans
      (Joint.totalCost_masked_eq_within _ b lens hpos hrl.symm q (hq.trans hrl.symm))
  refine ⟨_, hrl, ?_, fun q hq1 hq2 => ?_⟩
  · show o.final.cost = _
    rw [hcost]
    exact hobj _ (hvalid.1.trans hT)
  · show o.final.cost ≤ _
    rw [hcost, ← hobj q hq1]
    exact hopt q (hq1.trans hT.symm) hq2

/-- JOINT FRONT END WITH THE MASK APPLIED (the documented behaviour): for a scalar switching cost `b ≥ 0`
the labelling a joint call returns minimises — over all labellings of the concatenated windows — the
assignment cost under the returned model plus `b` for every switch INSIDE a series, and the reported cost
is that value: labels at the end of one series and the start of the next are independent. -/
theorem joint_masked_within_optimal (a : Args α) (b : α) (hb0 : 0 ≤ b) (hb : a.beta = fun _ => b)
    (orc : Run.Oracles α) (init : List Nat) (series : List (List (List α)))
    (_hW : 1 ≤ a.W) (hT : ∀ s ∈ series, a.W ≤ s.length) (hne : series ≠ []) (hK : 0 < a.K) (hl : 1 ≤ a.limit)
    (out : Out α) (h : joint true a orc init series = .ok out) :
    let lens := series.map (fun s => stackedLen s.length a.W)
    ∃ rows : List (Nat → α), rows.length = lens.sum ∧
      out.report.cost = Joint.withinObjective rows b lens out.report.labels ∧
      ∀ q, q.length = lens.sum → (∀ l ∈ q, l < a.K) →
        out.report.cost ≤ Joint.withinObjective rows b lens q := by
  intro lens
  obtain ⟨rep, hf, rfl⟩ := joint_ok true a orc init series out h
  have hpos : ∀ n ∈ lens, 0 < n := by
    intro n hn
    obtain ⟨s, hs, rfl⟩ := List.mem_map.mp hn
    exact stackedLen_pos (hT s hs)
  obtain ⟨s, hs⟩ := List.exists_mem_of_ne_nil series hne
  exact fit_masked_within_optimal _ orc a.logT a.thr a.biased a.limit init b hb0 lens hpos
    (stackMulti_length series a.W) (jointBetas_masked_scalar a b hb lens) hK
    (stackMulti_length_pos series a.W ⟨s, hs, hT s hs⟩) hl rep hf

/-- non-vacuity: a concrete joint run over ℚ (two series of lengths 3 and 4, `W = 2`) returns label
lists of lengths 3 and 4 with the trailing marker. -/
example :
    let a : Args Rat := ⟨2, 2, 1, 3, fun _ => 1, false, 1/2, 1, 0, 0⟩
    let orc : Run.Oracles Rat := ⟨fun _ _ i j => if i = j then 1 else 0, fun _ _ => 0, fun _ _ => 0, fun _ => [], fun _ _ _ => []⟩
    (joint true a orc [0, 0, 1, 1, 1] [[[0], [1], [0]], [[9], [10], [9], [10]]]).toOption.map (·.labels)
      = some [[0, 0, -1], [1, 1, 1, -1]] := by
  decide +kernel

end FastTicc.FrontEnd
