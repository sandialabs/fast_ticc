/-
TRANSLATED CODE = MODEL (pad_missing_labels of data_preparation.py, property C04).  `Generated/Kernels.lean` is rewritten from the Python AST of
`$REPO/src/fast_ticc` by `harness/py2lean.py` on every run; the theorems below are about those generated
definitions and prove, for ALL inputs, that they compute what the hand-written model computes - the model the
property theorems are about.  They only keep checking while the source still says what the model says.
-/
import FastTicc.Generated.Kernels
import FastTicc.Proofs.Translated
import FastTicc.Proofs.Stack
open FastTicc FastTicc.PyLemmas

namespace FastTicc.Translated

theorem pad_missing_labels_eq (labels : List Int) (w : Nat) (hw : 1 ≤ w) :
    Gen.pad_missing_labels labels (w : Int) = .ok (Stack.padMissing labels w) := by
  have hfront : Py.intOfRat (Py.trueDiv ((w : Int) - 1) 2) = ((Stack.frontLen w : Nat) : Int) := by
    rw [← Int.natCast_one, ← Int.natCast_sub hw, intOfRat_trueDiv_two]; rfl
  have hback : (w : Int) - 1 - ((Stack.frontLen w : Nat) : Int) = ((Stack.backLen w : Nat) : Int) := by
    unfold Stack.backLen
    rw [Int.natCast_sub (Stack.front_le w), Int.natCast_sub hw]; rfl
  -- the assertion on the padded length holds
  have hlen : Py.len (Stack.padMissing labels w) = Py.len labels + (w : Int) - 1 := by
    -- `↑(n + (w - 1)) = ↑n + ↑w - 1`
    rw [Py.len, Stack.padMissing_length, Py.len, Int.natCast_add, Int.natCast_sub hw, Int.natCast_one,
      Int.add_sub_assoc]
  unfold Gen.pad_missing_labels
  simp only [hfront, hback, repeatList_single]
  exact if_neg (by rw [Bool.not_eq_true', decide_eq_false_iff_not, not_not]; exact hlen)

end FastTicc.Translated
