/-
TRANSLATED CODE = MODEL (`_compute_log_likelihood_by_cluster` of main_loop.py, property C06).  `Generated/Kernels.lean` is
rewritten from the Python AST of `$REPO/src/fast_ticc` by `harness/py2lean.py` on every run; the theorem below is about that
generated definition.  `model` is the record of what the function reads of the final model state (cluster count, window
size, labels); `likelihood.point_log_likelihood(window, model.clusters[k], W, N)` is a function parameter (`pointLL`, the
cluster represented by its index); the list of per-cluster lists is a `List (List α)` updated by `xs[k].append(v)`.
-/
import FastTicc.Generated.Kernels
import FastTicc.Proofs.Translated
import FastTicc.Model.Result
open FastTicc FastTicc.PyLemmas

namespace FastTicc.Translated
section
variable {α : Type}

/-- one window: skipped when its label is `-1`, otherwise appended to its cluster's list -/
def listsBody (f : Int × Int → α) (it : Int × Int) (st : List (List α)) : List (List α) :=
  if decide (it.2 = (-1 : Int)) = true then st
  else Py.setItem st it.2 (Py.append (Py.getItem st it.2) (f it))

theorem listsBody_step (K : Nat) (f : Int × Int → α) (p : Int × Int) (hp : -1 ≤ p.2 ∧ p.2 < (K : Int)) (g : Nat → List α) :
    listsBody f p ((List.range K).map g)
      = (List.range K).map (fun (k : Nat) => g k ++ ([p].filter (fun (q : Int × Int) => q.2 == (k : Int))).map f) := by
  unfold listsBody
  by_cases hm : p.2 = -1
  · rw [if_pos (by simpa using hm)]
    refine List.map_congr_left (fun k _ => ?_)
    have : ¬ ((-1 : Int) = (k : Int)) := by omega
    simp [hm, this]
  · -- `-1 ≤ p.2 ≠ -1`, so `0 = -1 + 1 ≤ p.2`
    obtain ⟨l, hl⟩ : ∃ l : Nat, p.2 = (l : Int) :=
      Int.eq_ofNat_of_zero_le (Int.add_one_le_of_lt (lt_of_le_of_ne hp.1 (Ne.symm hm)))
    have hlK : l < K := Int.ofNat_lt.mp (hl ▸ hp.2)
    -- `xs[l].append(v)` on a list built cluster by cluster
    rw [if_neg (by simpa using hm), hl, getItem_map_range g K l hlK, setItem_map_range, Py.append]
    refine List.map_congr_left (fun k _ => ?_)
    by_cases hk : k = l
    · simp [hl, hk]
    · simp [hl, hk, Ne.symm hk]

theorem lists_loop (K : Nat) (f : Int × Int → α) :
    ∀ (pts : List (Int × Int)), (∀ p ∈ pts, -1 ≤ p.2 ∧ p.2 < (K : Int)) →
    ∀ (g : Nat → List α),
      pts.foldl (fun st it => listsBody f it st) ((List.range K).map g)
        = (List.range K).map (fun (k : Nat) => g k ++ (pts.filter (fun (p : Int × Int) => p.2 == (k : Int))).map f) := by
  intro pts
  induction pts with
  | nil => intro _ g; simp
  | cons p t ih =>
    intro h g
    rw [List.foldl_cons, listsBody_step K f p (h p List.mem_cons_self), ih (fun q hq => h q (List.mem_cons_of_mem p hq))]
    refine List.map_congr_left (fun k _ => ?_)
    rw [List.append_assoc, ← List.map_append, ← List.filter_append, List.singleton_append]

theorem foldl_body_ext {β σ : Type} {g h : σ → β → σ} (hgh : ∀ s x, g s x = h s x) (l : List β) (init : σ) :
    l.foldl g init = l.foldl h init := by
  have : g = h := by funext s x; exact hgh s x
  rw [this]

theorem enumerate_map_snd (labels : List Int) : (Py.enumerate labels).map (fun (p : Int × Int) => p.2) = labels := by
  unfold Py.enumerate
  simp [List.map_map, Function.comp_def]

/-- **the translated `_compute_log_likelihood_by_cluster` is `Result.clusterLists`**: for every cluster count, every labelling
with labels in `[-1, K)` and every per-point likelihood function, the translated function returns, for each cluster, the
log-likelihoods of exactly the windows carrying its label, in window order (`-1`, "not clustered", is skipped); `ll[i]` is
`pointLL(window i, cluster labels[i], W, N)` with `N = shape[1] / W`. -/
theorem compute_log_likelihood_by_cluster_eq (pointLL : Py.Arr1 α → Int → Int → Rat → α) (data : Py.Arr2 α)
    (K : Nat) (W : Int) (labels : List Int) (hl : ∀ l ∈ labels, -1 ≤ l ∧ l < (K : Int)) :
    Gen._compute_log_likelihood_by_cluster pointLL data ⟨(K : Int), W, labels⟩
      = Result.clusterLists K labels
          ((Py.enumerate labels).map (fun (it : Int × Int) =>
            pointLL (Py.Arr2.row data it.1) it.2 W (Py.trueDiv (Py.Arr2.shape1 data) W))) := by
  unfold Gen._compute_log_likelihood_by_cluster
  dsimp only  -- the `let`s of the generated text
  have hinit : List.map (fun (_ : Int) => ([] : List α)) (Py.range 0 (K : Int) 1) = (List.range K).map (fun _ => []) := by
    rw [range_zero_one, List.map_map]; rfl
  rw [hinit]
  unfold Py.forEach
  set f : Int × Int → α := fun it => pointLL (Py.Arr2.row data it.1) it.2 W (Py.trueDiv (Py.Arr2.shape1 data) W) with hf
  -- the loop body, whichever way the source spells the guard (`if c: continue` / `if not c:`), is `listsBody`
  rw [foldl_body_ext (h := fun st it => listsBody f it st)]
  swap
  · intro s x
    show _ = listsBody f x s
    unfold listsBody
    by_cases hx : x.2 = -1 <;> simp [hx, hf]
  have hpts : ∀ p ∈ Py.enumerate labels, -1 ≤ p.2 ∧ p.2 < (K : Int) := by
    intro p hp
    have : p.2 ∈ (Py.enumerate labels).map (fun (q : Int × Int) => q.2) := List.mem_map_of_mem hp
    rw [enumerate_map_snd] at this
    exact hl _ this
  rw [lists_loop K f _ hpts]
  unfold Result.clusterLists
  apply List.map_congr_left
  intro k _
  simp only [List.nil_append]
  have hz : labels.zip ((Py.enumerate labels).map f) = (Py.enumerate labels).map (fun it => (it.2, f it)) := by
    have h1 := List.zip_map' (f := fun (p : Int × Int) => p.2) (g := f) (l := Py.enumerate labels)
    rw [enumerate_map_snd] at h1
    exact h1
  rw [hz, List.filter_map, List.map_map]
  rfl
end
end FastTicc.Translated
