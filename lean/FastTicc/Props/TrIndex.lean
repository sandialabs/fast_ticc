/-
TRANSLATED CODE = MODEL (index maps of admm/unique_values.py, property C11).  `Generated/Kernels.lean` is rewritten from the Python AST of
`$REPO/src/fast_ticc` by `harness/py2lean.py` on every run; the theorems below are about those generated
definitions and prove, for ALL inputs, that they compute what the hand-written model computes - the model the
property theorems are about.  They only keep checking while the source still says what the model says.
-/
import FastTicc.Generated.Kernels
import FastTicc.Proofs.Translated
import FastTicc.Props.C11
open FastTicc FastTicc.PyLemmas

namespace FastTicc.Translated

theorem size_including_this_row_eq (r n : Int) :
    Gen._size_including_this_row r n = ((n * (r + 1) - r * (r + 1) / 2 : Int) : Rat) := by
  unfold Gen._size_including_this_row
  rw [trueDiv_even _ (Int.even_mul_succ_self r)]
  push_cast
  ring

theorem compressed_index_eq (r c n : Nat) (hrc : r ≤ c) (hcn : c < n) :
    Gen._compressed_index (r : Int) (c : Int) (n : Int) = .ok ((Index.compressedIndex r c n : Nat) : Int) := by
  unfold Gen._compressed_index
  rw [if_neg (by simpa using hrc)]
  rw [size_including_this_row_eq]
  unfold Gen._elements_in_row_after_target
  -- the model's index is the offset of row `r` plus `c - r`
  rw [← Int.cast_sub, intOfRat_intCast, Index.Aux.compressedIndex_eq n r c hrc hcn]
  simp only [pure, Except.pure]
  congr 1
  have hrn : r < n := Nat.lt_of_le_of_lt hrc hcn
  -- the size up to row `r`, without its subtraction, read in `ℤ`
  have hs := congrArg (Nat.cast (R := Int)) (Index.Aux.pre_succ_add_tri n r hrn)
  rw [Index.Aux.pre_succ] at hs
  push_cast [Nat.cast_sub hrn.le, Nat.cast_sub hrc] at hs ⊢
  rw [← hs]
  ring

theorem block_start_coordinates_eq (b N W : Nat) (hb : b < W) (hN : 0 < N) :
    Gen._block_start_coordinates (b : Int) (N : Int) (W : Int)
      = .ok ((Index.blockStarts b N W).map (fun p => ((p.1 : Int), (p.2 : Int)))) := by
  unfold Gen._block_start_coordinates
  have g1 : ¬ ((b : Int) < 0) := not_lt.2 (Int.natCast_nonneg b)
  have g2 : ¬ ((b : Int) ≥ (W : Int)) := not_le.2 (Int.ofNat_lt.2 hb)
  have g3 : ¬ ((N : Int) ≤ 0) := not_le.2 (Int.natCast_pos.2 hN)
  have g4 : ¬ ((W : Int) ≤ 0) := not_le.2 (Int.natCast_pos.2 (Nat.zero_lt_of_lt hb))
  simp only [g1, g2, g3, g4, decide_false, Bool.or_false, Bool.false_eq_true, if_false]
  rw [← Int.natCast_sub hb.le, forEach_range]
  -- the loop appends the corner of occurrence `k`; the four range checks on it succeed
  rw [foldl_range_eq (g := fun m =>
    ((List.range m).map (fun (i : Nat) => (((0 + i * N : Nat) : Int), ((b * N + i * N : Nat) : Int))), true))]
  · simp only [Bool.not_true, Bool.false_eq_true, if_false, pure, Except.pure, bind, Except.bind, Index.blockStarts,
      List.map_map]
    rfl
  · rfl
  · intro k hk
    have h1 : k * N < W * N := Nat.mul_lt_mul_of_pos_right (Nat.lt_of_lt_of_le hk (Nat.sub_le W b)) hN
    have h2 : b * N + k * N < W * N := by
      rw [← Nat.add_mul]; exact Nat.mul_lt_mul_of_pos_right (Nat.add_lt_of_lt_sub' hk) hN
    simp only [getItem_concat_last, ← Nat.cast_mul, ← Nat.cast_add, zero_add, ge_iff_le, Int.natCast_nonneg,
      Nat.cast_lt, h1, h2, decide_true, Bool.and_true, Py.append, List.range_succ, List.map_append, List.map_cons,
      List.map_nil]

theorem unique_variable_locations_eq (b r c N W : Nat) (hb : b < W) (hN : 0 < N) :
    Gen._unique_variable_locations (b : Int) (r : Int) (c : Int) (N : Int) (W : Int)
      = .ok ((Index.positions b r c N W).map (fun p => ((p.1 : Int), (p.2 : Int)))) := by
  unfold Gen._unique_variable_locations
  rw [block_start_coordinates_eq b N W hb hN]
  simp only [bind, Except.bind, pure, Except.pure, Index.positions, List.map_map]
  congr 1

theorem locations_index_slices_eq (b r c N W : Nat) (hb : b < W) (hN : 0 < N) :
    Gen.locations_index_slices (b : Int) (r : Int) (c : Int) (N : Int) (W : Int)
      = .ok (((Index.locSlices b r c N W).1.map (fun (x : Nat) => (x : Int))),
             ((Index.locSlices b r c N W).2.map (fun (x : Nat) => (x : Int)))) := by
  unfold Gen.locations_index_slices
  rw [unique_variable_locations_eq b r c N W hb hN]
  simp only [bind, Except.bind, pure, Except.pure, Index.locSlices, List.map_map]
  rfl

theorem mapM_ok_map {α β γ} (f : β → Except String γ) (cast : α → β) (g : α → γ) (l : List α)
    (h : ∀ a ∈ l, f (cast a) = .ok (g a)) : (l.map cast).mapM f = .ok (l.map g) := by
  induction l with
  | nil => rfl
  | cons a t ih =>
    rw [List.map_cons, List.mapM_cons, h a (by simp), ih (fun x hx => h x (by simp [hx]))]
    rfl

/-- the class `(b, r, c)` is one the Z-update iterates over: `r, c < N` and `r ≤ c` on the diagonal block. -/
theorem locations_compressed_eq (b r c N W : Nat) (hb : b < W) (hr : r < N) (hc : c < N) (hrc : b = 0 → r ≤ c) :
    Gen.locations_compressed (b : Int) (r : Int) (c : Int) (N : Int) (W : Int)
      = .ok ((Index.locCompressed b r c N W).map (fun (x : Nat) => (x : Int))) := by
  unfold Gen.locations_compressed
  rw [unique_variable_locations_eq b r c N W hb (Nat.zero_lt_of_lt hr)]
  simp only [bind, Except.bind]
  -- every position of the class lies in the upper triangle, where `_compressed_index` does not raise
  rw [← Nat.cast_mul, mapM_ok_map _ _ (fun p => ((Index.compressedIndex p.1 p.2 (N * W) : Nat) : Int)) _ (fun p hp => ?_)]
  · simp only [Index.locCompressed, List.map_map]
    rfl
  · obtain ⟨h1, h2⟩ := Index.positions_upper b r c N W hb hr hc hrc p hp
    exact compressed_index_eq p.1 p.2 (N * W) h1 h2

end FastTicc.Translated
