/-
The primitive `Py.range` - the translator's reading of Python's `range(a, b, s)` - for a positive step: its elements are exactly
the terms `a + s*k` (k = 0, 1, ...) that lie below the stop, in that order; the closed-form length `rangeLen` is the number of
such terms.  (Negative steps are used by one translated function, the labelling kernel's backward pass; `forEach_range_down`
in `Proofs/Translated.lean` covers the form used there.)
-/
import FastTicc.Model.Py
open FastTicc

namespace FastTicc.PyRange

/-- for a positive step: `k` is below the length of `range(a, b, s)` iff the `k`-th term is still below the stop -/
theorem lt_rangeLen_pos (a b s : Int) (hs : 0 < s) (k : Nat) :
    k < Py.rangeLen a b s ↔ a + s * (k : Int) < b := by
  unfold Py.rangeLen
  -- `k < ⌊(b - a + s - 1) / s⌋` iff `(k + 1) * s ≤ b - a + s - 1`, which is linear in `s * k`
  rw [if_pos hs, Int.lt_toNat, Int.lt_iff_add_one_le, Int.le_ediv_iff_mul_le hs, Int.add_mul, Int.mul_comm (k : Int) s]
  omega

/-- **`Py.range` is Python's `range` for a positive step**: exactly the terms `a, a+s, a+2s, …` below the stop, in that order -/
theorem mem_range_pos (a b s : Int) (hs : 0 < s) (x : Int) :
    x ∈ Py.range a b s ↔ ∃ k : Nat, x = a + s * (k : Int) ∧ x < b := by
  unfold Py.range
  simp only [List.mem_map, List.mem_range]
  constructor
  · rintro ⟨k, hk, rfl⟩
    exact ⟨k, rfl, (lt_rangeLen_pos a b s hs k).mp hk⟩
  · rintro ⟨k, rfl, hlt⟩
    exact ⟨k, (lt_rangeLen_pos a b s hs k).mpr hlt, rfl⟩

/-- the terms come in increasing order of `k` -/
theorem range_getElem (a b s : Int) (k : Nat) (hk : k < (Py.range a b s).length) :
    (Py.range a b s)[k] = a + s * (k : Int) := by
  simp [Py.range]

example : Py.range 2 11 3 = [2, 5, 8] := by decide
example : Py.range 5 5 1 = [] := by decide
example : Py.range 7 (-1) (-3) = [7, 4, 1] := by decide
end FastTicc.PyRange
