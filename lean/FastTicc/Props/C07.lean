/-
Property C07 (kernel half) — jointly labelled series are independent across series boundaries:
with the masked switching cost `β × mask` the labelling step minimises, and reports, assignment
cost plus switching cost over WITHIN-series consecutive pairs only.
Composition of C01 (`viterbi_optimal`, `viterbi_cost_is_cost_of_path`), C06 (`switch_cost_masked`)
and C07mask (`mask_zero_iff_boundary`).
-/
import FastTicc.Props.C01
import FastTicc.Props.C06
import FastTicc.Props.C07mask

namespace FastTicc.Joint
open FastTicc.Viterbi FastTicc.Stack

variable {α : Type} [Field α] [LinearOrder α] [IsStrictOrderedRing α]

/-- the per-pair switching cost the joint front end is meant to hand the kernel. -/
def jointBeta (beta : α) (lens : List Nat) : List α :=
  (maskTemplate lens).map (fun (x : Nat) => beta * (x : α))

theorem jointBeta_nonneg (beta : α) (hb : 0 ≤ beta) (lens : List Nat) :
    ∀ b ∈ jointBeta beta lens, 0 ≤ b := by
  intro b hbm
  obtain ⟨x, _, rfl⟩ := List.mem_map.mp hbm
  exact mul_nonneg hb (Nat.cast_nonneg x)

/-- number of consecutive pairs `(i, i+1)` that lie inside one series and carry different labels. -/
def withinSwitches (lens : List Nat) (ls : List Nat) : Nat :=
  ((List.range (ls.length - 1)).filter
    (fun i => seriesOf lens i == seriesOf lens (i + 1) && ls.getD i 0 != ls.getD (i + 1) 0)).length

/-- the objective of the property: assignment cost + β for every within-series switch. -/
def withinObjective (rows : List (Nat → α)) (beta : α) (lens : List Nat) (ls : List Nat) : α :=
  assignCost (withVectorBeta rows (jointBeta beta lens)) ls + beta * (withinSwitches lens ls : α)

/-- for every tuple of positive stacked lengths and every labelling of the concatenation, the
kernel's cost model with the masked beta IS the within-series objective … -/
theorem totalCost_masked_eq_within (rows : List (Nat → α)) (beta : α) (lens : List Nat)
    (hpos : ∀ n ∈ lens, 0 < n) (hlen : lens.sum = rows.length) (ls : List Nat)
    (hl : ls.length = rows.length) :
    totalCost (withVectorBeta rows (jointBeta beta lens)) ls = withinObjective rows beta lens ls := by
  unfold totalCost withinObjective
  congr 1
  unfold jointBeta withinSwitches
  rw [Result.switch_cost_masked rows beta (maskTemplate lens) ls (maskTemplate_binary lens)
    (by rw [maskTemplate_length', hlen]) hl]
  -- both sides are `beta` times a count of pairs `i < |ls| - 1` with differing labels: those with mask entry 1 on the
  -- left, those inside one series on the right
  refine congrArg (fun l : List Nat => beta * (l.length : α)) (List.filter_congr fun i hi => ?_)
  rw [List.mem_range] at hi
  rw [mask_getD_eq_one lens hpos i (by rw [hlen, ← hl]; exact Nat.add_lt_of_lt_sub hi)]

/-- … hence the labelling step returns a labelling that minimises it over all `K^T` labellings and
reports exactly its value: a different label at the last point of one series and the first point of
the next costs nothing. -/
theorem joint_optimal_within (K : Nat) (hK : 0 < K) (rows : List (Nat → α)) (hne : rows ≠ [])
    (beta : α) (hb : 0 ≤ beta) (lens : List Nat) (hpos : ∀ n ∈ lens, 0 < n)
    (hlen : lens.sum = rows.length) :
    let r := viterbi K (withVectorBeta rows (jointBeta beta lens))
    ValidLabels K rows.length r.1 ∧
    r.2 = withinObjective rows beta lens r.1 ∧
    ∀ q, ValidLabels K rows.length q → r.2 ≤ withinObjective rows beta lens q := by
  intro r
  have hplen : (withVectorBeta rows (jointBeta beta lens)).length = rows.length := by
    simp [withVectorBeta, jointBeta, maskTemplate_length', hlen]
  have hpne : withVectorBeta rows (jointBeta beta lens) ≠ [] := by
    intro h
    rw [h] at hplen
    exact hne (List.length_eq_zero_iff.mp hplen.symm)
  have hbn : BetaNonneg (withVectorBeta rows (jointBeta beta lens)) :=
    Result.withVectorBeta_nonneg rows _ (jointBeta_nonneg beta hb lens)
  have hmin := viterbi_returns_minimiser K hK _ hpne hbn
  rw [hplen] at hmin
  refine ⟨hmin.1, ?_, fun q hq => ?_⟩
  · exact (viterbi_cost_is_cost_of_path K hK _ hpne hbn).trans
      (totalCost_masked_eq_within rows beta lens hpos hlen _ hmin.1.1)
  · exact (viterbi_optimal K hK _ hbn q (by rw [hplen]; exact hq)).trans
      (totalCost_masked_eq_within rows beta lens hpos hlen q hq.1).le

/-- joint labelling of a single series hands the kernel the same input as the single-series front
end (scalar beta), so it returns the same labels and cost. -/
theorem joint_single_eq_single (K : Nat) (rows : List (Nat → α)) (beta : α) :
    viterbi K (withVectorBeta rows (jointBeta beta [rows.length])) = viterbi K (withScalarBeta rows beta) := by
  rw [viterbi_scalar_beta]
  simp [jointBeta, mask_single]

/-- the pinned front end hands the kernel the scalar: what is minimised and reported then prices
EVERY consecutive pair, including the series-boundary pairs (known finding K1). -/
theorem joint_pinned_prices_boundaries :
    ∃ (rows : List (Nat → ℚ)) (beta : ℚ) (lens : List Nat) (ls : List Nat),
      (∀ n ∈ lens, 0 < n) ∧ lens.sum = rows.length ∧ ls.length = rows.length ∧
      totalCost (withScalarBeta rows beta) ls ≠ withinObjective rows beta lens ls :=
  ⟨[fun _ => 0, fun _ => 0], 1, [1, 1], [0, 1], by decide, rfl, rfl, by decide +kernel⟩

end FastTicc.Joint
