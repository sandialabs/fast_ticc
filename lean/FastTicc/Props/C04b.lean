/-
Property C04 (continued) — composition of the padding theorems with the labelling kernel's range
theorem: the label list a front end returns for a series consists of exactly `⌊(W-1)/2⌋` leading and
`(W-1) − ⌊(W-1)/2⌋` trailing `-1` markers around labels that are all in `[0, K)`.
Helper lemmas live in `FastTicc/Proofs/Stack.lean` / `FastTicc/Proofs/Viterbi.lean`.
-/
import FastTicc.Props.C04
import FastTicc.Props.C01

namespace FastTicc.Stack
open FastTicc.Viterbi

variable {α : Type} [AddCommGroup α] [LinearOrder α] [IsOrderedAddMonoid α]

/-- the labels the single-series front end returns, as a function of the final cost table. -/
def frontEndLabels (K W : ℕ) (pts : List ((ℕ → α) × α)) : List Int :=
  padMissing ((viterbi K pts).1.map (fun (l : ℕ) => (l : Int))) W

/-- exactly `T = (number of stacked points) + W − 1` labels; markers exactly at the margins; every
other label is an integer in `[0, K)`. -/
theorem frontEndLabels_shape (K W : ℕ) (hK : 0 < K) (hW : 1 ≤ W) (pts : List ((ℕ → α) × α))
    (hne : pts ≠ []) :
    (frontEndLabels K W pts).length = pts.length + W - 1 ∧
    (∀ i, i < frontLen W → (frontEndLabels K W pts)[i]? = some (-1)) ∧
    (∀ i, i < backLen W → (frontEndLabels K W pts)[frontLen W + pts.length + i]? = some (-1)) ∧
    (∀ i, i < pts.length → ∃ l : ℕ, (frontEndLabels K W pts)[frontLen W + i]? = some (l : Int) ∧ l < K) ∧
    (frontEndLabels K W pts).count (-1) = W - 1 := by
  have hlen := viterbi_length K pts hne
  have hrange := viterbi_labels_in_range K hK pts
  have hmlen : ((viterbi K pts).1.map (fun (l : ℕ) => (l : Int))).length = pts.length := by
    rw [List.length_map, hlen]
  unfold frontEndLabels
  refine ⟨?_, ?_, ?_, ?_, ?_⟩
  · rw [pad_length _ W hW, hmlen]
  · intro i hi
    exact pad_front _ W i hi
  · intro i hi
    have := pad_back ((viterbi K pts).1.map (fun (l : ℕ) => (l : Int))) W i hi
    rwa [hmlen] at this
  · intro i hi
    have hi' : i < (viterbi K pts).1.length := by rw [hlen]; exact hi
    exact ⟨(viterbi K pts).1[i], pad_middle_map _ _ W i hi', hrange _ (List.getElem_mem hi')⟩
  · apply pad_marker_count
    intro x hx
    rw [List.mem_map] at hx
    obtain ⟨l, _, rfl⟩ := hx
    exact Int.natCast_nonneg l

end FastTicc.Stack
