/-
TRANSLATED CODE = MODEL (assign_point_cluster_labels of cluster_label_assignment.py, property C01).
`Generated/Kernels.lean` is rewritten from the Python AST of `$REPO/src/fast_ticc` by `harness/py2lean.py` on every run; the
theorems below are about those generated definitions and prove, for ALL inputs, that they compute what the hand-written
model computes - the model the property theorems are about.  They only keep checking while the source still says what the
model says.
-/
import FastTicc.Generated.Kernels
import FastTicc.Proofs.ViterbiKernel
import FastTicc.Props.C01
open FastTicc FastTicc.PyLemmas

namespace FastTicc.Translated

section
variable {α : Type} [Zero α] [Add α] [Sub α] [LT α] [DecidableLT α]

/-- the generated kernel, with its three loop bodies named (`rfl`: the generated text is literally this; the tactic, since a
body `:= rfl` also registers the equation for `dsimp` and, on a term of this size, pays a second and much dearer unfolding
check for it) -/
theorem gen_viterbi_structured (cost : Py.Arr2 α) (sov : Py.ScalarOrVec α) :
    Gen.assign_point_cluster_labels cost sov =
      (let T := cost.shape0
       let K := cost.shape1
       let lsc := Py.broadcastAdd (Py.Arr1.const T (0 : α)) sov
       let r := Py.forEach (Py.range (T - 2) (-1) (-1)) (Py.Arr2.const T K (0 : Int), Py.Arr2.const T K (0 : α))
                  (outerBody cost lsc K)
       let path0 := Py.setItem (Py.repeatList [(-1 : Int)] T) 0
                      (Py.Arr1.argmin (Py.Arr1.add (r.2.row 0) (cost.row 0)))
       let cst := r.2.get2 0 (Py.getItem path0 0) + cost.get2 0 (Py.getItem path0 0)
       (Py.forEach (Py.range 0 (T - 1) 1) path0 (pathBody r.1), cst)) := by rfl

/-- the switching-cost vector the kernel builds on its first line: `np.zeros(T) + beta` -/
def kernelBeta (cost : Py.Arr2 α) (sov : Py.ScalarOrVec α) : Py.Arr1 α :=
  Py.broadcastAdd (Py.Arr1.const (cost.rows : Int) (0 : α)) sov

/-- **the translated labelling kernel is the Viterbi model**: for every cost table with at least one point and one
cluster and every switching cost (scalar or vector), the function translated from `assign_point_cluster_labels`
returns exactly the labels and the cost of `Viterbi.viterbi` on the same points. -/
theorem assign_point_cluster_labels_eq (cost : Py.Arr2 α) (sov : Py.ScalarOrVec α)
    (hT : 0 < cost.rows) (hK : 0 < cost.cols) :
    Gen.assign_point_cluster_labels cost sov
      = (((Viterbi.viterbi cost.cols (ptsOf cost (kernelBeta cost sov))).1.map (fun (c : Nat) => (c : Int))),
         (Viterbi.viterbi cost.cols (ptsOf cost (kernelBeta cost sov))).2) := by
  rw [gen_viterbi_structured]
  unfold kernelBeta
  have hl : (Py.broadcastAdd (Py.Arr1.const (cost.rows : Int) (0 : α)) sov).n = cost.rows := lsc_n cost.rows sov
  simp only [Py.Arr2.shape0, Py.Arr2.shape1]
  generalize Py.broadcastAdd (Py.Arr1.const (cost.rows : Int) (0 : α)) sov = lsc at *
  -- both loops make `T - 1` rounds: the bounds `T - 2 = (T - 1) - 1` and `T - 1` as casts of the natural number `T - 1`
  have hT1 : cost.rows - 1 + 1 = cost.rows := Nat.sub_add_cancel hT
  rw [show (cost.rows : Int) - 2 = (cost.rows : Int) - 1 - 1 from (Int.sub_sub _ 1 1).symm,
    ← Int.natCast_pred_of_pos hT]
  -- the backward loop leaves the model's future costs and path rows in the two tables
  rw [forEach_range_down, ← outerState]
  obtain ⟨h1, h2, h3, h4, h5, h6⟩ := outer_loop cost lsc hl hK (cost.rows - 1) hT1.le
  rw [Nat.sub_self] at h5 h6
  generalize outerState cost lsc (cost.rows - 1) = st at *
  have hstart : Py.Arr1.argmin (Py.Arr1.add (st.2.row 0) (cost.row 0))
      = ((Viterbi.argmin (fun c => futM cost lsc 0 c + cost.get 0 c) cost.cols : Nat) : Int) :=
    argmin_eq _ _ _ h4 hK (fun c hc => by
      simp only [Py.Arr1.add, Py.Arr2.row, idx_zero]
      rw [h5 0 c (Nat.le_refl 0) hT hc])
  rw [hstart]
  generalize hs : Viterbi.argmin (fun c => futM cost lsc 0 c + cost.get 0 c) cost.cols = start
  have hslt : start < cost.cols := hs ▸ Viterbi.argmin_lt _ hK
  rw [viterbi_ptsOf cost lsc hT start hs]
  -- the path list before the forward loop: the start label, then `-1`
  have hpath0 : Py.setItem (Py.repeatList [(-1 : Int)] (cost.rows : Int)) 0 ((start : Nat) : Int)
      = (List.range cost.rows).map (fun j => if j ≤ 0 then ((labs (pathRow cost lsc) start j : Nat) : Int) else -1) := by
    rw [repeatList_single, ← List.length_range (n := cost.rows), ← List.map_const', List.length_range]
    refine (setItem_map_range _ _ 0 _).trans (List.map_congr_left fun j _ => ?_)
    by_cases hj : j = 0
    · rw [if_pos hj, if_pos (Nat.le_of_eq hj), hj]; rfl
    · rw [if_neg hj, if_neg (mt Nat.le_zero.mp hj)]
  rw [hpath0, forEach_range, show Py.getItem _ (0 : Int) = _ from getItem_map_range _ _ 0 hT, if_pos (Nat.le_refl 0)]
  rw [path_loop cost lsc st.1 hK ⟨h1, h2⟩ (fun r c hr hc => h6 r c (Nat.zero_le r) hr hc) start hslt (cost.rows - 1)
    hT1.le]
  refine congrArg₂ Prod.mk ?_ ?_
  · rw [List.map_map]
    refine List.map_congr_left fun j hj => ?_
    rw [if_pos (Nat.le_sub_one_of_lt (List.mem_range.mp hj))]; rfl
  · simp only [Py.Arr2.get2, idx_nat, idx_zero]
    exact congrArg (· + cost.get 0 start) (h5 0 start (Nat.le_refl 0) hT hslt)

end


/-! ### what the equivalence buys: C01 for the translated kernel itself -/
section
variable {α : Type} [AddCommGroup α] [LinearOrder α] [IsOrderedAddMonoid α]

/-- **C01 about the code as translated**: for every cost table (T ≥ 1 points, K ≥ 1 clusters) and every non-negative
switching cost, the function translated from `assign_point_cluster_labels` returns one label in `[0, K)` per point,
reports the total cost of exactly that labelling, and no labelling of the `K^T` candidates is cheaper. -/
theorem translated_kernel_optimal (cost : Py.Arr2 α) (sov : Py.ScalarOrVec α)
    (hT : 0 < cost.rows) (hK : 0 < cost.cols)
    (hb : Viterbi.BetaNonneg (ptsOf cost (kernelBeta cost sov))) :
    ∃ labels : List Nat,
      (Gen.assign_point_cluster_labels cost sov).1 = labels.map (fun (c : Nat) => (c : Int)) ∧
      Viterbi.ValidLabels cost.cols cost.rows labels ∧
      (Gen.assign_point_cluster_labels cost sov).2
        = Viterbi.totalCost (ptsOf cost (kernelBeta cost sov)) labels ∧
      ∀ q, Viterbi.ValidLabels cost.cols cost.rows q →
        (Gen.assign_point_cluster_labels cost sov).2 ≤ Viterbi.totalCost (ptsOf cost (kernelBeta cost sov)) q := by
  have hlen : (ptsOf cost (kernelBeta cost sov)).length = cost.rows := by simp [ptsOf]
  have hne : ptsOf cost (kernelBeta cost sov) ≠ [] := List.ne_nil_of_length_pos (hlen ▸ hT)
  rw [assign_point_cluster_labels_eq cost sov hT hK]
  exact ⟨_, rfl, ⟨by rw [Viterbi.viterbi_length _ _ hne, hlen], Viterbi.viterbi_labels_in_range _ hK _⟩,
    Viterbi.viterbi_cost_is_cost_of_path _ hK _ hne hb,
    fun q hq => Viterbi.viterbi_optimal _ hK _ hb q (by rw [hlen]; exact hq)⟩

/-- a scalar switching cost `b` reaches the kernel as the constant vector `b` (`np.zeros(T) + b`). -/
theorem kernelBeta_scalar (cost : Py.Arr2 α) (b : α) (i : Nat) :
    (kernelBeta cost (.scalar b)).get i = b := by
  simp [kernelBeta, Py.broadcastAdd, Py.Arr1.addScalar, Py.Arr1.const]

/-- a vector switching cost reaches the kernel unchanged -/
theorem kernelBeta_vec (cost : Py.Arr2 α) (a : Py.Arr1 α) (i : Nat) :
    (kernelBeta cost (.vec a)).get i = a.get i := by
  simp [kernelBeta, Py.broadcastAdd, Py.Arr1.add, Py.Arr1.const]

end

end FastTicc.Translated
