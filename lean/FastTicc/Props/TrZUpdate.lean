/-
TRANSLATED CODE = MODEL (the Z-update of admm/solver.py: compute_lambda_sum and admm_update_z, properties C02 / C18).
`Generated/Kernels.lean` is rewritten from the Python AST of `$REPO/src/fast_ticc` by `harness/py2lean.py` on every run; the
theorems below are about those generated definitions.  `args` is the record of the four `ADMMArguments` fields the
function reads; the `isinstance` dispatch of `compute_lambda_sum` is a `match` on scalar / matrix; a call that can raise
inside the loops records the first error in a carried variable and the error is thrown after the loops.
-/
import FastTicc.Props.TrIndex
import FastTicc.Props.TrSoft
import FastTicc.Model.Numeric
open FastTicc FastTicc.PyLemmas FastTicc.Index

namespace FastTicc.Translated
section
variable {α : Type} [Field α] [LinearOrder α]

def lamOf (lam : Py.Lambda α) : Numeric.Lambda α :=
  match lam with
  | .scalar v => .scalar v
  | .matrix M => .matrix M.get

/-- a vector as the translated code sees a Python list of floats (reads past the end give 0, as the model's `getD`) -/
def arrOf (l : List α) : Py.Arr1 α := ⟨l.length, fun k => l.getD k 0⟩

omit [LinearOrder α] in
theorem sumAt2_positions (M : Py.Arr2 α) (ps : List (Nat × Nat)) :
    Py.Arr2.sumAt M (ps.map (fun p => (p.1 : Int))) (ps.map (fun p => (p.2 : Int)))
      = Numeric.sumOver ps (fun p => M.get p.1 p.2) := by
  unfold Py.Arr2.sumAt Numeric.sumOver
  rw [List.zip_map', List.foldl_map]
  simp only [idx_nat]

omit [LinearOrder α] in
theorem sumAt_natCast (a : Py.Arr1 α) (is : List Nat) :
    Py.Arr1.sumAt a (is.map (fun (i : Nat) => (i : Int))) = Numeric.sumOver is a.get := by
  unfold Py.Arr1.sumAt Numeric.sumOver
  rw [List.foldl_map]
  simp only [idx_nat]

omit [LinearOrder α] in
/-- `num_blocks - block_id`, the number of occurrences of a class of block `b`, as a scalar -/
theorem occurrences_cast (b W : Nat) (hb : b < W) : (((W : Int) - (b : Int) : Int) : α) = ((W - b : Nat) : α) := by
  rw [Nat.cast_sub hb.le, Int.cast_sub, Int.cast_natCast, Int.cast_natCast]

/-- **the translated `compute_lambda_sum` is the model's `lambdaSum`** for a class of the Z-update -/
theorem compute_lambda_sum_eq (lam : Py.Lambda α) (b r c N W : Nat) (hb : b < W) (hN : 0 < N) :
    Gen.compute_lambda_sum lam (b : Int) (r : Int) (c : Int) (N : Int) (W : Int)
      = .ok (Numeric.lambdaSum (lamOf lam) b r c N W) := by
  unfold Gen.compute_lambda_sum
  cases lam with
  | scalar v =>
    simp only [lamOf, Numeric.lambdaSum, Numeric.lambdaSumScalar, pure, Except.pure, occurrences_cast b W hb]
  | matrix M =>
    simp only [lamOf, Numeric.lambdaSum, Numeric.lambdaSumMatrix]
    rw [locations_index_slices_eq b r c N W hb hN]
    simp only [bind, Except.bind, pure, Except.pure, Index.locSlices, List.map_map]
    congr 1
    exact sumAt2_positions M (positions b r c N W)


/-- one class of the Z-update on the translated vector: write the class value at the class positions -/
def zStep (rho : α) (lam : Py.Lambda α) (N W : Nat) (tpu : Py.Arr1 α) (z : Py.Arr1 α) (k : Nat × Nat × Nat) : Py.Arr1 α :=
  Py.Arr1.setMany z ((locCompressed k.1 k.2.1 k.2.2 N W).map (fun (i : Nat) => (i : Int)))
    (Numeric.classValue rho (lamOf lam) tpu.get k.1 k.2.1 k.2.2 N W)

/-- the body of the innermost loop, for a class the Z-update iterates over and no earlier error -/
theorem z_body (rho : α) (lam : Py.Lambda α) (N W : Nat) (tpu z : Py.Arr1 α) (b r c : Nat)
    (hb : b < W) (hr : r < N) (hc : c < N) (hrc : b = 0 → r ≤ c) :
    (let t_4 := Gen.compute_lambda_sum lam (b : Int) (r : Int) (c : Int) (N : Int) (W : Int)
     let err_ := Py.firstErr (none : Option String) t_4
     let lambda_sum := Py.okOr t_4 (0 : α)
     let t_5 := Gen.locations_compressed (b : Int) (r : Int) (c : Int) (N : Int) (W : Int)
     let err_ := Py.firstErr err_ t_5
     let indices := Py.okOr t_5 []
     let scaled_point_sum := rho * Py.Arr1.sumAt tpu indices
     let z_update := Py.Arr1.setMany z indices
        (Gen.soft_threshold_prox scaled_point_sum lambda_sum (rho * ((((W : Int) - (b : Int) : Int)) : α)))
     (z_update, err_)) = (zStep rho lam N W tpu z (b, r, c), none) := by
  simp only [compute_lambda_sum_eq lam b r c N W hb (by omega), locations_compressed_eq b r c N W hb hr hc hrc,
    Py.firstErr, Py.okOr, sumAt_natCast, soft_threshold_prox_eq, zStep, Numeric.classValue, occurrences_cast b W hb]


/-- the columns the Z-update visits for block `b`, row `r` (as in `Index.classes`) -/
def colsList (N b r : Nat) : List Nat := (List.range N).filter (fun c => if b = 0 then r ≤ c else true)

omit [Field α] [LinearOrder α] in
theorem colsList_eq (N b r : Nat) : colsList N b r = List.range' (if b = 0 then r else 0) (N - (if b = 0 then r else 0)) := by
  unfold colsList
  by_cases hb : b = 0
  · simp only [hb, if_true]
    exact filter_le_range r N
  · simp only [hb, if_false]
    simp [List.range_eq_range']

def colsStep (rho : α) (lam : Py.Lambda α) (N W : Nat) (tpu z : Py.Arr1 α) (b r : Nat) : Py.Arr1 α :=
  (colsList N b r).foldl (fun z c => zStep rho lam N W tpu z (b, r, c)) z

def rowsStep (rho : α) (lam : Py.Lambda α) (N W : Nat) (tpu z : Py.Arr1 α) (b : Nat) : Py.Arr1 α :=
  (List.range N).foldl (fun z r => colsStep rho lam N W tpu z b r) z

/-- the three nested loops are a fold over `Index.classes N W` -/
theorem blocks_fold_eq_classes (rho : α) (lam : Py.Lambda α) (N W : Nat) (tpu z : Py.Arr1 α) :
    (List.range W).foldl (rowsStep rho lam N W tpu) z = (classes N W).foldl (zStep rho lam N W tpu) z := by
  unfold classes rowsStep colsStep colsList
  simp only [List.foldl_flatMap, List.foldl_map]


omit [Field α] [LinearOrder α] in
theorem setMany_cons {β : Type} (a : Py.Arr1 β) (i : Int) (is : List Int) (v : β) :
    Py.Arr1.setMany a (i :: is) v = Py.Arr1.setMany (Py.Arr1.set a i v) is v := by
  unfold Py.Arr1.setMany Py.Arr1.set
  -- `contains` of a cons is an `or`, and an `if` on an `or` is two nested `if`s
  simp only [List.map_cons, List.contains_cons, Bool.or_eq_true, beq_iff_eq, or_comm, ite_or]

omit [Field α] [LinearOrder α] in
theorem toList_set {β : Type} (a : Py.Arr1 β) (i : Nat) (v : β) :
    (Py.Arr1.set a (i : Int) v).toList = a.toList.set i v := by
  unfold Py.Arr1.toList Py.Arr1.set
  rw [idx_nat]
  apply List.ext_getElem
  · simp
  · intro k hk1 hk2
    simp [List.getElem_set, eq_comm]

omit [LinearOrder α] in
/-- writing one value at a list of positions: the vector's entries as a list -/
theorem toList_setMany (a : Py.Arr1 α) (is : List Nat) (v : α) :
    (Py.Arr1.setMany a (is.map (fun (i : Nat) => (i : Int))) v).toList = is.foldl (fun l i => l.set i v) a.toList := by
  induction is generalizing a with
  | nil => simp [Py.Arr1.setMany, Py.Arr1.toList]
  | cons i t ih => rw [List.map_cons, setMany_cons, ih, toList_set, List.foldl_cons]


/-- the three loop bodies of the generated Z-update, named -/
def zColBody (rho : α) (lam : Py.Lambda α) (N W : Int) (tpu : Py.Arr1 α) (b r col : Int)
    (s : Py.Arr1 α × Option String) : Py.Arr1 α × Option String :=
  let t_4 := Gen.compute_lambda_sum lam b r col N W
  let err := Py.firstErr s.2 t_4
  let lambda_sum := Py.okOr t_4 (0 : α)
  let t_5 := Gen.locations_compressed b r col N W
  let err := Py.firstErr err t_5
  let indices := Py.okOr t_5 []
  (Py.Arr1.setMany s.1 indices
    (Gen.soft_threshold_prox (rho * Py.Arr1.sumAt tpu indices) lambda_sum (rho * (((W - b : Int)) : α))), err)

def zRowBody (rho : α) (lam : Py.Lambda α) (N W : Int) (tpu : Py.Arr1 α) (b row : Int)
    (s : Py.Arr1 α × Option String) : Py.Arr1 α × Option String :=
  Py.forEach (Py.range (if decide (b = 0) then row else 0) N 1) s (zColBody rho lam N W tpu b row)

def zBlockBody (rho : α) (lam : Py.Lambda α) (N W : Int) (tpu : Py.Arr1 α) (b : Int)
    (s : Py.Arr1 α × Option String) : Py.Arr1 α × Option String :=
  Py.forEach (Py.range 0 N 1) s (zRowBody rho lam N W tpu b)

/-- the generated Z-update with its loop bodies named (`rfl`: the generated text is literally this) -/
theorem gen_z_structured (args : Py.ADMMArgs α) (u x : Py.Arr1 α) :
    Gen.admm_update_z args u x =
      (let r := Py.forEach (Py.range 0 args.window_size 1)
                  (Py.Arr1.const (Py.Arr1.size x) (0 : α), (none : Option String))
                  (zBlockBody args.rho args.sparsity_weight args.num_data_series args.window_size (Py.Arr1.add x u))
       (do
         match r.2 with
         | some e_ => throw e_
         | none => pure ()
         return r.1)) := by rfl

theorem zRowBody_eq (rho : α) (lam : Py.Lambda α) (N W : Nat) (tpu z : Py.Arr1 α) (b r : Nat) (hb : b < W) (hr : r < N) :
    zRowBody rho lam (N : Int) (W : Int) tpu (b : Int) (r : Int) (z, none) = (colsStep rho lam N W tpu z b r, none) := by
  have hs : (if decide ((b : Int) = 0) = true then (r : Int) else 0) = (((if b = 0 then r else 0 : Nat)) : Int) := by
    by_cases h0 : b = 0 <;> simp [h0]
  rw [zRowBody, hs, range_nat_one, Py.forEach, List.foldl_map, colsStep, colsList_eq]
  refine List.foldl_rel (r := fun s z => s = (z, none)) rfl ?_
  rintro c hc _ z rfl
  have hc' := List.mem_range'_1.mp hc
  exact z_body rho lam N W tpu z b r c hb hr (by omega) (fun h0 => by rw [if_pos h0] at hc'; exact hc'.1)

theorem zBlockBody_eq (rho : α) (lam : Py.Lambda α) (N W : Nat) (tpu z : Py.Arr1 α) (b : Nat) (hb : b < W) :
    zBlockBody rho lam (N : Int) (W : Int) tpu (b : Int) (z, none) = (rowsStep rho lam N W tpu z b, none) := by
  rw [zBlockBody, forEach_range, rowsStep]
  refine List.foldl_rel (r := fun s z => s = (z, none)) rfl ?_
  rintro r hr _ z rfl
  exact zRowBody_eq rho lam N W tpu z b r hb (List.mem_range.mp hr)

/-- the form in which `run_admm_optimization_eq` of `Props/TrAdmmLoop.lean` asks for the Z update (its `hz`) -/
theorem admm_update_z_ok (rho : α) (lam : Py.Lambda α) (N W : Nat) (u x : Py.Arr1 α)
    (mi : Int) (vb : Bool) (cb : Option (α → α → α → α → α → α)) (atol rtol : α) :
    Gen.admm_update_z ⟨(W : Int), (N : Int), rho, lam, mi, vb, cb, atol, rtol⟩ u x
      = .ok ((classes N W).foldl (zStep rho lam N W (Py.Arr1.add x u)) (Py.Arr1.const (Py.Arr1.size x) (0 : α))) := by
  have hall : (List.range W).foldl (fun s (b : Nat) => zBlockBody rho lam (N : Int) (W : Int) (Py.Arr1.add x u) (b : Int) s)
        (Py.Arr1.const (Py.Arr1.size x) (0 : α), none)
      = ((List.range W).foldl (rowsStep rho lam N W (Py.Arr1.add x u)) (Py.Arr1.const (Py.Arr1.size x) (0 : α)), none) := by
    refine List.foldl_rel (r := fun s z => s = (z, none)) rfl ?_
    rintro b hb _ z rfl
    exact zBlockBody_eq rho lam N W _ z b (List.mem_range.mp hb)
  rw [gen_z_structured]
  dsimp only  -- the `let`s of the generated text
  rw [forEach_range, hall, blocks_fold_eq_classes]
  rfl

/-- **the translated Z-update is the model's Z-update**: for every step parameter, sparsity weight (scalar or matrix),
sensor count `N`, window `W` and compressed vectors `u`, `x`, the function translated from `admm_update_z` (three
nested loops over blocks, rows and columns, each class handled through the translated `compute_lambda_sum`,
`locations_compressed` and `soft_threshold_prox`) raises nothing and returns `Numeric.zUpdate`. -/
theorem admm_update_z_eq (rho : α) (lam : Py.Lambda α) (N W : Nat) (us xs : List α)
    (mi : Int := 1000) (vb : Bool := false) (cb : Option (α → α → α → α → α → α) := none) (atol : α := 0) (rtol : α := 0) :
    ∃ z, Gen.admm_update_z ⟨(W : Int), (N : Int), rho, lam, mi, vb, cb, atol, rtol⟩ (arrOf us) (arrOf xs) = .ok z ∧
      z.toList = Numeric.zUpdate rho (lamOf lam) N W us xs := by
  refine ⟨_, admm_update_z_ok rho lam N W (arrOf us) (arrOf xs) mi vb cb atol rtol, ?_⟩
  -- the model writes the same values into a list
  refine List.foldl_rel (r := fun (z : Py.Arr1 α) l => z.toList = l) ?_ (fun k _ z l h => ?_)
  · simp [Py.Arr1.toList, Py.Arr1.const, Py.Arr1.size, arrOf, List.map_const']
  · rw [zStep, toList_setMany, h]
    simp only [Py.Arr1.add, arrOf]

end
end FastTicc.Translated
