/-
Composition theorems that tie the per-property results into statements about a whole run
(C09 "the returned labelling is a minimum-cost labelling for the returned model", C20 "the first
failing cluster of the earliest failing round surfaces", C02 "the solver returns the X iterate of
its last sweep and only stops by its rule after the first sweep").
Helper lemmas live in `FastTicc/Proofs/MainLoop.lean`.
-/
import FastTicc.Props.C01
import FastTicc.Props.C20

namespace FastTicc.MainLoop
open FastTicc.Viterbi

section returned
variable {α : Type} [AddCommGroup α] [LinearOrder α] [IsOrderedAddMonoid α]
variable {σ ε : Type}

/-- C09 + C01: if the relabel phase is "score the given state into a cost table and run the
labelling kernel", then the labelling a run returns is a minimum-cost labelling for the model state
it was computed from — the output of the optimise phase of the SAME (last) round. -/
theorem returned_labelling_optimal (P : Phases σ ε) (labels : σ → List Nat) (K : Nat) (hK : 0 < K)
    (table : σ → List ((Nat → α) × α))
    (hne : ∀ s, table s ≠ []) (hb : ∀ s, BetaNonneg (table s))
    (hrel : ∀ s s', P.relabel s = .ok s' → labels s' = (viterbi K (table s)).1)
    (limit : Nat) (hl : 1 ≤ limit) (s0 : σ) (r : Outcome σ)
    (h : run P labels limit s0 = .ok r) :
    ∃ sFit, P.relabel sFit = .ok r.final ∧
      ValidLabels K (table sFit).length (labels r.final) ∧
      ∀ q, ValidLabels K (table sFit).length q →
        totalCost (table sFit) (labels r.final) ≤ totalCost (table sFit) q := by
  obtain ⟨sFit, hfit⟩ := run_final_relabel P labels h (Nat.ne_of_gt hl)
  have hlab := hrel sFit r.final hfit
  obtain ⟨hv, hopt⟩ := viterbi_returns_minimiser K hK (table sFit) (hne sFit) (hb sFit)
  rw [← hlab] at hv hopt
  exact ⟨sFit, hfit, hv, hopt⟩
end returned

section tasks
variable {σ ε β : Type}

/-- C20: the optimise phase built from K per-cluster tasks fails exactly with the error of the
first failing cluster in cluster order, and otherwise stores all K results in cluster order. -/
theorem optFromTasks_error_iff (K : Nat) (task : σ → Nat → Except ε β) (store : σ → List β → σ)
    (s : σ) (e : ε) :
    optFromTasks K task store s = .error e ↔
      ∃ k, k < K ∧ task s k = .error e ∧ ∀ j, j < k → ∃ v, task s j = .ok v := by
  simp only [optFromTasks, map_error_iff, gather_error_first, getElem?_map_range_eq_some]
  -- what is left: inside `range K` the bound `j < K` of the earlier tasks follows from `j < k < K`
  constructor
  · rintro ⟨k, ⟨hkK, hke⟩, hall⟩
    exact ⟨k, hkK, hke, fun j hj => (hall j hj).imp fun _ hv => hv.2⟩
  · rintro ⟨k, hkK, hke, hall⟩
    exact ⟨k, ⟨hkK, hke⟩, fun j hj => (hall j hj).imp fun _ hv => ⟨Nat.lt_trans hj hkK, hv⟩⟩

theorem optFromTasks_ok_iff (K : Nat) (task : σ → Nat → Except ε β) (store : σ → List β → σ)
    (s s' : σ) :
    optFromTasks K task store s = .ok s' ↔
      ∃ vs : List β, (List.range K).map (task s) = vs.map Except.ok ∧ s' = store s vs := by
  simp only [optFromTasks, map_ok_iff, gather_ok_iff]
end tasks

section admm
variable {ν : Type}

/-- the ADMM sweep of the source, re-extracted from the AST on every run: X, then Z, then U; the
stopping rule is consulted only for `iteration > 0`; the function returns `x`. -/
theorem constants_tie_admm : Constants.admmUpdateOrder = [1, 2, 3] ∧ Constants.admmCheckAfter = 0 ∧
    Constants.admmReturns = 1 := ⟨rfl, rfl, rfl⟩

/-- the sweep translated from the source is the sweep C02 describes (X, then Z from the new X, then U
from the new X and Z). -/
theorem sweep_translated_eq_spec (ux uz uu : Admm ν → ν) (s : Admm ν) :
    sweep ux uz uu s = sweepSpec ux uz uu s := rfl

/-- C02: at least one and at most `maxIter` sweeps. -/
theorem admm_iterations_bounds (step : Admm ν → Admm ν) (stop : Admm ν → ν → Bool)
    (rescale : Admm ν → ν → Admm ν) (maxIter : Nat) (hm : 1 ≤ maxIter) (zero : ν) :
    1 ≤ (admmRun step stop rescale maxIter zero).2 ∧ (admmRun step stop rescale maxIter zero).2 ≤ maxIter := by
  obtain ⟨_, a1, a2, _⟩ := admmRun_spec step stop rescale maxIter (Nat.ne_of_gt hm) zero
  exact ⟨a1, a2⟩

/-- the stopping rule is never consulted after the very first sweep: with a budget of at least two
sweeps the solver performs at least two. -/
theorem admm_first_sweep_never_stops (step : Admm ν → Admm ν) (stop : Admm ν → ν → Bool)
    (rescale : Admm ν → ν → Admm ν) (maxIter : Nat) (hm : 2 ≤ maxIter) (zero : ν) :
    2 ≤ (admmRun step stop rescale maxIter zero).2 := by
  obtain ⟨_, _, _, a3, _⟩ :=
    admmRun_spec step stop rescale maxIter (Nat.ne_of_gt (Nat.zero_lt_of_lt hm)) zero
  exact a3 hm

/-- what is returned is the X iterate of the last sweep performed; and if the solver stopped before
exhausting its budget, the stopping rule held for that last sweep (against the previous Z).

CHANGED: (1) the hypothesis `hres` was ADDED — the rho update must leave `x` alone (in the source it
only rescales `u`: `u = scale * u`, solver.py:121).  Without it the seeded statement is false, see
`admm_returns_last_x_needs_hres` below.  (2) the awkward `∨ maxIter = 0` was replaced by the
hypothesis `hm : 1 ≤ maxIter` (this is the stronger reading). -/
theorem admm_returns_last_x (step : Admm ν → Admm ν) (stop : Admm ν → ν → Bool)
    (rescale : Admm ν → ν → Admm ν) (hres : ∀ s z, (rescale s z).x = s.x)
    (maxIter : Nat) (hm : 1 ≤ maxIter) (zero : ν) :
    ∃ sPrev : Admm ν, (admmRun step stop rescale maxIter zero).1 = (step sPrev).x := by
  obtain ⟨sPrev, _, _, _, _, a5⟩ := admmRun_spec step stop rescale maxIter (Nat.ne_of_gt hm) zero
  exact ⟨sPrev, a5 hres⟩

/-- `hres` is needed: a rho update that overwrites `x` makes the seeded form
(`∃ sPrev, … = (step sPrev).x ∨ maxIter = 0`) false.  `step` always produces `x = 0`, the rule
never fires, `rescale` sets `x := 1`, budget 2: the solver returns `(1, 2)`. -/
theorem admm_returns_last_x_needs_hres :
    ∃ (step : Admm Nat → Admm Nat) (stop : Admm Nat → Nat → Bool) (rescale : Admm Nat → Nat → Admm Nat)
      (maxIter : Nat) (z0 : Nat),
      ¬ ∃ sPrev : Admm Nat, (admmRun step stop rescale maxIter z0).1 = (step sPrev).x ∨ maxIter = 0 := by
  refine ⟨fun s => ⟨0, s.z, s.u⟩, fun _ _ => false, fun s _ => ⟨1, s.z, s.u⟩, 2, 0, ?_⟩
  rintro ⟨sPrev, h | h⟩
  · have h1 : (1 : Nat) = 0 := h
    exact absurd h1 (by decide)
  · exact absurd h (by decide)

theorem admm_early_stop_rule_held (step : Admm ν → Admm ν) (stop : Admm ν → ν → Bool)
    (rescale : Admm ν → ν → Admm ν) (maxIter : Nat) (zero : ν)
    (h : (admmRun step stop rescale maxIter zero).2 < maxIter) :
    ∃ sPrev : Admm ν, (admmRun step stop rescale maxIter zero).1 = (step sPrev).x ∧
      stop (step sPrev) sPrev.z = true := by
  obtain ⟨sPrev, _, _, _, a4, _⟩ :=
    admmRun_spec step stop rescale maxIter (Nat.ne_of_gt (Nat.zero_lt_of_lt h)) zero
  exact ⟨sPrev, a4 h⟩
end admm

/-- non-vacuity: a scalar "solver" that halves the distance to 8 and stops when the change is < 1. -/
example :
    admmRun (fun s : Admm Nat => ⟨(s.x + 8) / 2, s.x, s.u⟩) (fun s zold => decide (s.x - zold.min s.x ≤ 1 ∧ s.z = zold))
      (fun s _ => s) 10 0 = (7, 5) := by
  decide

end FastTicc.MainLoop
