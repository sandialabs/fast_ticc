/-
TRANSLATED CODE = MODEL (calinski_harabasz_index of cluster_metrics.py, property C17).  `Generated/Kernels.lean` is rewritten
from the Python AST of `$REPO/src/fast_ticc` by `harness/py2lean.py` on every run; the theorems below are about that
generated definition.  `model` is the record of what the function reads of a model state (per cluster: its size and its
member list); the int accumulators `numerator = 0`, `denominator = 0` that receive matrices are promoted the way NumPy
broadcasts them; `np.mean`, `M[list, :]`, `.reshape(-1, 1)`, `@`, `np.trace` are primitives of `Model/Py.lean`; `if … : continue`
guards the rest of the loop body; the final `int / int` factor is an exact rational cast into the scalar type.
-/
import FastTicc.Generated.Kernels
import FastTicc.Proofs.Translated
import FastTicc.Model.Numeric
import FastTicc.Proofs.Stats
import FastTicc.Props.C17
import Mathlib.Algebra.Order.Field.Basic
open FastTicc FastTicc.PyLemmas

namespace FastTicc.Translated
section
variable {α : Type} [Field α] [LinearOrder α]

/-- the model state as `calinski_harabasz_index` reads it: cluster `k` has the member list `members k` -/
def chModelOf (K : Nat) (members : Nat → List Nat) : Py.ChModel :=
  ⟨(List.range K).map (fun k => ⟨((members k).length : Nat), (members k).map (fun (i : Nat) => (i : Int))⟩)⟩

/-- the mean window of cluster `k` as the code computes it: `np.mean(data[member_points, :], axis=0)` -/
def chMean (data : Py.Arr2 α) (members : Nat → List Nat) (k j : Nat) : α :=
  (Py.Arr2.meanAxis0 (Py.Arr2.takeRows data ((members k).map (fun (i : Nat) => (i : Int))))).get j

/-- entry `(r, c)` of the matrix the inner loop adds for one window: `(x_i - m)(x_i - m)ᵀ` -/
def wTerm (data : Py.Arr2 α) (m : Nat → α) (i r c : Nat) : α := (data.get i r - m r) * (data.get i c - m c)

omit [LinearOrder α] in
theorem outerProduct_eq (v : Py.Arr1 α) :
    Py.matMul (Py.colOf v) (Py.Arr2.transpose (Py.colOf v)) = ⟨v.n, v.n, fun r c => v.get r * v.get c⟩ := by
  simp [Py.matMul, Py.colOf, Py.Arr2.transpose, Py.sumTo]

omit [LinearOrder α] in
theorem ch_inner_eq (data : Py.Arr2 α) (mean : Py.Arr1 α) (mem : List Nat) (den : Py.Arr2 α) :
    (mem.map (fun (i : Nat) => (i : Int))).foldl (fun (den : Py.Arr2 α) (point_id : Int) =>
      Py.Arr2.addB den (Py.matMul (Py.colOf (Py.Arr1.sub (Py.Arr2.row data point_id) mean))
        (Py.Arr2.transpose (Py.colOf (Py.Arr1.sub (Py.Arr2.row data point_id) mean))))) den
    = ⟨if mem = [] then den.rows else max den.rows data.cols, if mem = [] then den.cols else max den.cols data.cols,
        fun r c => den.get r c + (mem.map (fun i => wTerm data mean.get i r c)).sum⟩ := by
  induction mem generalizing den with
  | nil => simp
  | cons i t ih =>
    rw [List.map_cons, List.foldl_cons, ih, outerProduct_eq]
    simp only [Py.Arr2.addB, Py.Arr1.sub, Py.Arr2.row, idx_nat, reduceCtorEq, if_false, List.map_cons, List.sum_cons,
      wTerm, add_assoc, max_assoc, max_self, ite_self]

omit [LinearOrder α] in
/-- the inner loop over the member windows of one cluster -/
theorem ch_inner (data : Py.Arr2 α) (mean : Py.Arr1 α) (mem : List Nat)
    (hmem : ∀ i ∈ mem, i < data.rows) (den : Py.Arr2 α) :
    let res := (mem.map (fun (i : Nat) => (i : Int))).foldl (fun (den : Py.Arr2 α) (point_id : Int) =>
      Py.Arr2.addB den (Py.matMul (Py.colOf (Py.Arr1.sub (Py.Arr2.row data point_id) mean))
        (Py.Arr2.transpose (Py.colOf (Py.Arr1.sub (Py.Arr2.row data point_id) mean))))) den
    (∀ r c, res.get r c = den.get r c + (mem.map (fun i => wTerm data mean.get i r c)).sum) ∧
    res.rows = (if mem = [] then den.rows else max den.rows data.cols) ∧
    res.cols = (if mem = [] then den.cols else max den.cols data.cols) := by
  rw [ch_inner_eq]
  exact ⟨fun _ _ => rfl, rfl, rfl⟩


/-- entry `(r, c)` of the matrix the outer loop adds for one non-empty cluster: `n_k (m_k - g)(m_k - g)ᵀ` -/
def bTerm (n : Nat) (m : Nat → α) (g : α) (r c : Nat) : α := (n : α) * ((m r - g) * (m c - g))

/-- the body of the loop over the clusters -/
def chBody (data : Py.Arr2 α) (g : α) (cluster : Py.ChCluster) (s : Py.Arr2 α × Py.Arr2 α) : Py.Arr2 α × Py.Arr2 α :=
  if decide (cluster.size = 0) then (s.1, s.2)
  else
    let cluster_mean := Py.Arr2.meanAxis0 (Py.Arr2.takeRows data cluster.member_points)
    let rdm := Py.colOf (Py.Arr1.subScalar cluster_mean g)
    (Py.Arr2.addB s.1 (Py.Arr2.scaleInt cluster.size (Py.matMul rdm (Py.Arr2.transpose rdm))),
     Py.forEach cluster.member_points s.2 (fun point_id den =>
       Py.Arr2.addB den (Py.matMul (Py.colOf (Py.Arr1.sub (Py.Arr2.row data point_id) cluster_mean))
         (Py.Arr2.transpose (Py.colOf (Py.Arr1.sub (Py.Arr2.row data point_id) cluster_mean))))))

omit [LinearOrder α] in
/-- the generated function with its loop body named (`rfl`) -/
theorem gen_ch_structured (data : Py.Arr2 α) (model : Py.ChModel) :
    Gen.calinski_harabasz_index data model =
      (let g := Py.Arr2.meanAll data
       let r := Py.forEach model.clusters ((Py.Arr2.ofInt 0 : Py.Arr2 α), (Py.Arr2.ofInt 0 : Py.Arr2 α)) (chBody data g)
       (Py.Arr2.trace r.1 / Py.Arr2.trace r.2) *
         Py.ratCast (Py.trueDiv (Py.Arr2.shape0 data - Py.len model.clusters) (Py.len model.clusters - 1))) := rfl

omit [LinearOrder α] in
/-- the loop over the clusters, as a pair of matrices: after the first `m` clusters both accumulators have the shape
`d × d` (`0 × 0`, the promoted int, while every cluster so far was empty) and hold the sums of the between / within terms -/
theorem ch_outer_eq (data : Py.Arr2 α) (g : α) (members : Nat → List Nat) (m : Nat) :
    ((List.range m).map (fun k => (⟨((members k).length : Nat), (members k).map (fun (i : Nat) => (i : Int))⟩ : Py.ChCluster))).foldl
      (fun s cl => chBody data g cl s) ((Py.Arr2.ofInt 0 : Py.Arr2 α), (Py.Arr2.ofInt 0 : Py.Arr2 α))
    = (⟨if ∀ k < m, members k = [] then 0 else data.cols, if ∀ k < m, members k = [] then 0 else data.cols,
          fun r c => ((List.range m).map (fun k => bTerm (members k).length (chMean data members k) g r c)).sum⟩,
       ⟨if ∀ k < m, members k = [] then 0 else data.cols, if ∀ k < m, members k = [] then 0 else data.cols,
          fun r c => ((List.range m).map (fun k => ((members k).map (fun i => wTerm data (chMean data members k) i r c)).sum)).sum⟩) := by
  induction m with
  | zero => simp [Py.Arr2.ofInt]
  | succ j ih =>
    simp only [Nat.forall_lt_succ_right, List.sum_range_succ]
    rw [List.range_succ, List.map_append, List.foldl_append, ih, List.map_singleton, List.foldl_cons, List.foldl_nil]
    by_cases hj : members j = []
    · -- an empty cluster: skipped
      simp [chBody, hj, bTerm]
    · have hsz : ¬ ((((members j).length : Nat) : Int) = 0) := by simpa using hj
      simp only [chBody, hsz, decide_false, Bool.false_eq_true, if_false, Py.forEach]
      rw [ch_inner_eq, outerProduct_eq]
      have hmax : max (if ∀ k < j, members k = [] then 0 else data.cols) data.cols = data.cols :=
        Nat.max_eq_right (by split; exacts [Nat.zero_le _, Nat.le_refl _])
      have hn : (Py.Arr2.meanAxis0 (Py.Arr2.takeRows data ((members j).map (fun (i : Nat) => (i : Int))))).n = data.cols := rfl
      have hget : (Py.Arr2.meanAxis0 (Py.Arr2.takeRows data ((members j).map (fun (i : Nat) => (i : Int))))).get
          = chMean data members j := rfl
      simp only [hj, and_false, if_false, Py.Arr2.addB, Py.Arr2.scaleInt, Py.Arr1.subScalar, hn, hget, hmax, bTerm,
        Int.cast_natCast]

omit [LinearOrder α] in
/-- the loop over the clusters: after the first `m` of them -/
theorem ch_outer (data : Py.Arr2 α) (g : α) (members : Nat → List Nat) (K : Nat)
    (hmem : ∀ k < K, ∀ i ∈ members k, i < data.rows) (m : Nat) (hm : m ≤ K) :
    let res := ((List.range m).map (fun k => (⟨((members k).length : Nat), (members k).map (fun (i : Nat) => (i : Int))⟩ : Py.ChCluster))).foldl
      (fun s cl => chBody data g cl s) ((Py.Arr2.ofInt 0 : Py.Arr2 α), (Py.Arr2.ofInt 0 : Py.Arr2 α))
    (∀ r c, res.1.get r c = ((List.range m).map (fun k => bTerm (members k).length (chMean data members k) g r c)).sum) ∧
    (∀ r c, res.2.get r c = ((List.range m).map (fun k => ((members k).map (fun i => wTerm data (chMean data members k) i r c)).sum)).sum) ∧
    res.1.rows = (if ∀ k < m, members k = [] then 0 else data.cols) ∧
    res.1.cols = (if ∀ k < m, members k = [] then 0 else data.cols) ∧
    res.2.rows = (if ∀ k < m, members k = [] then 0 else data.cols) ∧
    res.2.cols = (if ∀ k < m, members k = [] then 0 else data.cols) := by
  rw [ch_outer_eq]
  exact ⟨fun _ _ => rfl, fun _ _ => rfl, rfl, rfl, rfl, rfl⟩

end

section
variable {α : Type} [Field α] [LinearOrder α] [IsStrictOrderedRing α]

/-- **the translated Calinski-Harabasz index is the model of the code** (`chPinned`: centred on the scalar mean of all
entries, the known finding K2 - its exact deviation from the definition is `chPinned_eq_chSpec_plus`), for every data
matrix, every `K` and every family of member lists with at least one non-empty cluster; the cluster means are those of the
windows the clusters hold (`chMean`). -/
theorem calinski_harabasz_index_eq (data : Py.Arr2 α) (K : Nat) (members : Nat → List Nat)
    (hmem : ∀ k < K, ∀ i ∈ members k, i < data.rows) (hne : ¬ ∀ k < K, members k = []) :
    Gen.calinski_harabasz_index data (chModelOf K members)
      = Numeric.chPinned data.rows K data.cols members (chMean data members) data.get := by
  rw [gen_ch_structured]
  simp only [chModelOf, Py.forEach]
  rw [ch_outer_eq]
  simp only [if_neg hne, Py.Arr2.trace, Nat.min_self, ← Numeric.sumOver_eq_sum]
  have hg : Py.Arr2.meanAll data = Numeric.scalarMean data.rows data.cols data.get := by
    simp only [Py.Arr2.meanAll, Numeric.scalarMean, Int.cast_natCast]
    rfl
  unfold Numeric.chPinned Numeric.chIndex
  refine congrArg₂ (· * ·) (congrArg₂ (· / ·) ?_ ?_) ?_
  · -- `tr Σ_k n_k v_k v_kᵀ` with `v_k = m_k − g𝟙` is, unfolded, the model's `traceOuterSum` (`Py.sumTo` is `Numeric.sumTo`
    -- word for word), and the sum-of-squares form of that is `between`
    rw [hg]
    exact Numeric.traceOuterSum_eq K data.cols (fun k => ((members k).length : α))
      (fun k j => chMean data members k j - Numeric.scalarMean data.rows data.cols data.get)
  · -- `tr Σ_k Σ_i (x_i − m_k)(x_i − m_k)ᵀ`: the sum over the diagonal moves inside the sums over clusters and members
    exact (Numeric.sumOver_comm _ _ _).trans
      (Numeric.sumOver_congr _ _ _ fun k _ => Numeric.sumOver_comm _ _ _)
  · simp [ratCast_trueDiv, Py.Arr2.shape0, Py.len]

end
end FastTicc.Translated
