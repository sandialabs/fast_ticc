/-
Property C02 (continued) — soundness of the KKT certificate: "the certificate implies global optimality", as
theorems over Mathlib's real matrices.

* `kkt_global_min`: a positive definite `X` that is constant on the classes of an arbitrary
  classification of the matrix positions and satisfies the class-wise KKT conditions of
  `−log det Θ + tr(SΘ) + Σ_ij Λ_ij|Θ_ij|` minimises that objective over ALL positive definite matrices
  that are constant on the classes (block-Toeplitz matrices for TICC's classes; every matrix for the
  identity classification).  `kkt_approx_global_min`: the same up to residuals `r_c`, with the suboptimality
  bounded by `Σ_c r_c |y_c − x_c|` — "a minimiser to within the stopping tolerance" made exact.
* `admm_fixed_point_global_min`: the conditions hold at a fixed point of the ADMM iteration, so an ADMM fixed
  point IS the constrained optimum.
* `mle_is_inverse_covariance`: with no penalty the optimum is `S⁻¹`.
* `blockToeplitz_iff_class_constant`, `ticc_admm_fixed_point_optimal`: for TICC's own classes (block offset,
  in-block row, in-block column, mirror positions folded) "constant on the classes" IS "block-Toeplitz with
  symmetric leading block", so the fixed point is the optimum over exactly the set the property names.

All of these are `glassoObj_le_of_classwise` (concavity of `log det` + regrouping the position sum by class) with
a scalar subgradient inequality of `L|·|` per class.

What remains unproved for C02 is only that the floating-point iteration reaches (a neighbourhood of)
such a fixed point within its budget.  Helper lemmas: `FastTicc/Proofs/LogDet.lean`, `FastTicc/Proofs/Admm.lean`.
-/
import FastTicc.Proofs.Admm
import FastTicc.Proofs.LogDet

namespace FastTicc.C02opt
open Matrix FastTicc.LogDet FastTicc.Numeric
variable {n : Type*} [Fintype n] [DecidableEq n]

/-- the graphical-lasso objective `−log det Θ + tr(SΘ) + Σ_ij Λ_ij |Θ_ij|`. -/
noncomputable def glassoObj (S Lam Θ : Matrix n n ℝ) : ℝ :=
  - Real.log Θ.det + (S * Θ).trace + ∑ i, ∑ j, Lam i j * |Θ i j|

/-- the scalar subgradient inequality with slack `r`: if `g` is within `r` of `L·sign x` (x ≠ 0), or `|g| ≤ L + r`
(x = 0), `L ≥ 0`, then `g (y − x) ≤ L(|y| − |x|) + r |y − x|`. -/
theorem abs_subgradient_slack (L g x y r : ℝ) (hL : 0 ≤ L)
    (h1 : x ≠ 0 → |g - L * SignType.sign x| ≤ r) (h0 : x = 0 → |g| ≤ L + r) :
    g * (y - x) ≤ L * (|y| - |x|) + r * |y - x| := by
  rcases lt_trichotomy x 0 with hx | rfl | hx
  · have hg := h1 hx.ne
    rw [sign_neg hx, SignType.coe_neg_one, mul_neg_one] at hg
    exact Aux.abs_subgradient_near (by rw [abs_neg, abs_of_nonneg hL])
      (by rw [abs_of_neg hx, neg_mul, mul_neg]) hg y
  · rw [sub_zero, abs_zero, sub_zero, ← add_mul]
    exact Aux.mul_le_mul_abs (h0 rfl) y
  · have hg := h1 hx.ne'
    rw [sign_pos hx, SignType.coe_one, mul_one] at hg
    exact Aux.abs_subgradient_near (abs_of_nonneg hL).le (by rw [abs_of_pos hx]) hg y

variable {κ : Type*} [Fintype κ] [DecidableEq κ]

theorem sum_mul_class {ι : Type*} [Fintype ι] (cls : ι → κ) (a : ι → ℝ) (m : κ → ℝ) :
    ∑ p, a p * m (cls p) = ∑ c, (∑ p with cls p = c, a p) * m c := by
  rw [← Finset.sum_fiberwise Finset.univ cls]
  refine Finset.sum_congr rfl fun c _ => ?_
  rw [Finset.sum_mul]
  exact Finset.sum_congr rfl fun p hp => by rw [(Finset.mem_filter.mp hp).2]

/-- the matrix half of every optimality statement below: concavity of `log det` at `X`, and the sums over matrix
positions regrouped by class (`g_c`, `L_c` the class sums of `X⁻¹ − S` and `Λ`).  Class-wise subgradient inequalities
`g_c (y_c − x_c) ≤ L_c (|y_c| − |x_c|) + r_c` add up to a bound on the gap of the objective. -/
theorem glassoObj_le_of_classwise (S Lam X : Matrix n n ℝ) (cls : n → n → κ) (x r : κ → ℝ)
    (hX : X.PosDef) (hXc : ∀ i j, X i j = x (cls i j))
    (Y : Matrix n n ℝ) (y : κ → ℝ) (hY : Y.PosDef) (hYc : ∀ i j, Y i j = y (cls i j))
    (h : ∀ c, (∑ p : n × n with cls p.1 p.2 = c, (X⁻¹ - S) p.1 p.2) * (y c - x c)
        ≤ (∑ p : n × n with cls p.1 p.2 = c, Lam p.1 p.2) * (|y c| - |x c|) + r c) :
    glassoObj S Lam X ≤ glassoObj S Lam Y + ∑ c, r c := by
  -- the difference of the penalties, class by class
  have hpen : (∑ i, ∑ j, Lam i j * |Y i j|) - ∑ i, ∑ j, Lam i j * |X i j|
      = ∑ c, (∑ p : n × n with cls p.1 p.2 = c, Lam p.1 p.2) * (|y c| - |x c|) := by
    rw [← sum_mul_class (fun p : n × n => cls p.1 p.2) (fun p => Lam p.1 p.2), Fintype.sum_prod_type,
      ← Finset.sum_sub_distrib]
    refine Finset.sum_congr rfl fun i _ => ?_
    rw [← Finset.sum_sub_distrib]
    exact Finset.sum_congr rfl fun j _ => by rw [hYc, hXc, mul_sub]
  -- `tr((X⁻¹ − S)(Y − X))` likewise (`Y − X` is symmetric)
  have hsymm : ∀ i j, (Y - X) j i = (Y - X) i j := fun i j => (hY.1.sub hX.1).apply i j
  have htr : (X⁻¹ * (Y - X)).trace - ((S * Y).trace - (S * X).trace)
      = ∑ c, (∑ p : n × n with cls p.1 p.2 = c, (X⁻¹ - S) p.1 p.2) * (y c - x c) := by
    rw [← trace_sub, ← Matrix.mul_sub, ← trace_sub, ← Matrix.sub_mul,
      ← sum_mul_class (fun p : n × n => cls p.1 p.2) (fun p => (X⁻¹ - S) p.1 p.2), trace,
      Fintype.sum_prod_type]
    refine Finset.sum_congr rfl fun i _ => ?_
    rw [diag_apply, mul_apply]
    exact Finset.sum_congr rfl fun j _ => by rw [hsymm, Matrix.sub_apply Y, hYc, hXc]
  have hconc := log_det_concave hX hY
  have hsum := Finset.sum_le_sum fun c (_ : c ∈ Finset.univ) => h c
  rw [Finset.sum_add_distrib, ← hpen, ← htr] at hsum
  unfold glassoObj
  linear_combination hconc + hsum

/-- QUANTITATIVE SOUNDNESS: a certificate that holds only up to a residual `r_c` per class bounds the
suboptimality against every competitor: `f(X) ≤ f(Y) + Σ_c r_c |y_c − x_c|`.  (This is the statement
behind "a minimiser to within the stopping tolerance": the check evaluates the class residuals `r_c` of
the returned matrix numerically.) -/
theorem kkt_approx_global_min (S Lam X : Matrix n n ℝ) (cls : n → n → κ) (x r : κ → ℝ)
    (hX : X.PosDef) (hXc : ∀ i j, X i j = x (cls i j)) (hLam : ∀ i j, 0 ≤ Lam i j) (hr : ∀ c, 0 ≤ r c)
    (hkkt1 : ∀ c, x c ≠ 0 →
      |(∑ p : n × n with cls p.1 p.2 = c, (X⁻¹ - S) p.1 p.2)
        - (∑ p : n × n with cls p.1 p.2 = c, Lam p.1 p.2) * SignType.sign (x c)| ≤ r c)
    (hkkt0 : ∀ c, x c = 0 →
      |∑ p : n × n with cls p.1 p.2 = c, (X⁻¹ - S) p.1 p.2|
        ≤ (∑ p : n × n with cls p.1 p.2 = c, Lam p.1 p.2) + r c)
    (Y : Matrix n n ℝ) (y : κ → ℝ) (hY : Y.PosDef) (hYc : ∀ i j, Y i j = y (cls i j)) :
    glassoObj S Lam X ≤ glassoObj S Lam Y + ∑ c, r c * |y c - x c| := by
  exact glassoObj_le_of_classwise S Lam X cls x _ hX hXc Y y hY hYc fun c =>
    abs_subgradient_slack _ _ _ _ _ (Finset.sum_nonneg fun p _ => hLam p.1 p.2) (hkkt1 c) (hkkt0 c)

/-- SOUNDNESS OF THE KKT CERTIFICATE (class-wise form, as the Toeplitz-constrained problem needs it).
`cls` assigns every matrix position to a class; `x`/`y` give the common value of a class.
If `X` (positive definite, constant on classes) satisfies, for every class `c`, with
`g_c = Σ_{(i,j) ∈ c} (X⁻¹ − S)_ij` and `L_c = Σ_{(i,j) ∈ c} Λ_ij`:
`g_c = L_c · sign x_c` when `x_c ≠ 0` and `|g_c| ≤ L_c` when `x_c = 0`,
then `X` minimises the graphical-lasso objective over ALL positive definite matrices that are constant
on the classes. -/
theorem kkt_global_min (S Lam X : Matrix n n ℝ) (cls : n → n → κ) (x : κ → ℝ)
    (hX : X.PosDef) (hXc : ∀ i j, X i j = x (cls i j)) (hLam : ∀ i j, 0 ≤ Lam i j)
    (hkkt1 : ∀ c, x c ≠ 0 →
      (∑ p : n × n with cls p.1 p.2 = c, (X⁻¹ - S) p.1 p.2)
        = (∑ p : n × n with cls p.1 p.2 = c, Lam p.1 p.2) * SignType.sign (x c))
    (hkkt0 : ∀ c, x c = 0 →
      |∑ p : n × n with cls p.1 p.2 = c, (X⁻¹ - S) p.1 p.2|
        ≤ ∑ p : n × n with cls p.1 p.2 = c, Lam p.1 p.2)
    (Y : Matrix n n ℝ) (y : κ → ℝ) (hY : Y.PosDef) (hYc : ∀ i j, Y i j = y (cls i j)) :
    glassoObj S Lam X ≤ glassoObj S Lam Y := by
  have := kkt_approx_global_min S Lam X cls x (fun _ => 0) hX hXc hLam (fun _ => le_rfl)
    (fun c hc => by rw [hkkt1 c hc, sub_self, abs_zero]) (fun c hc => by rw [add_zero]; exact hkkt0 c hc)
    Y y hY hYc
  simpa only [zero_mul, Finset.sum_const_zero, add_zero] using this

/-- AN ADMM FIXED POINT IS THE CONSTRAINED OPTIMUM.  Let `X` be positive definite and constant on the
classes (`X = Z`, zero primal residual), let `U` be the scaled dual variable with
`X⁻¹ − S = ρ U` (what the X-update's stationarity `ρX − X⁻¹ = ρ(Z − U) − S` says when `Z = X`), and let
every class value be what the Z-update writes for that class from its own entries `x_c + U_p`
(zero dual residual): `softThreshold (ρ Σ_{p∈c} (x_c + U_p)) (Σ_{p∈c} Λ_p) (ρ |c|) = x_c`.
Then `X` minimises the graphical-lasso objective over all positive definite class-constant matrices. -/
theorem admm_fixed_point_global_min (S Lam X U : Matrix n n ℝ) (rho : ℝ) (hrho : 0 < rho)
    (cls : n → n → κ) (x : κ → ℝ)
    (hX : X.PosDef) (hXc : ∀ i j, X i j = x (cls i j)) (hLam : ∀ i j, 0 ≤ Lam i j)
    (hstat : X⁻¹ - S = rho • U)
    (hfix : ∀ c, (∃ p : n × n, cls p.1 p.2 = c) →
      softThreshold (rho * ∑ p : n × n with cls p.1 p.2 = c, (x c + U p.1 p.2))
        (∑ p : n × n with cls p.1 p.2 = c, Lam p.1 p.2)
        (rho * ((Finset.univ.filter (fun p : n × n => cls p.1 p.2 = c)).card : ℝ)) = x c)
    (Y : Matrix n n ℝ) (y : κ → ℝ) (hY : Y.PosDef) (hYc : ∀ i j, Y i j = y (cls i j)) :
    glassoObj S Lam X ≤ glassoObj S Lam Y := by
  refine (glassoObj_le_of_classwise S Lam X cls x (fun _ => 0) hX hXc Y y hY hYc fun c => ?_).trans_eq
    (by rw [Finset.sum_const_zero, add_zero])
  rw [add_zero, hstat]
  simp only [Matrix.smul_apply, smul_eq_mul, ← Finset.mul_sum]
  by_cases hne : ∃ p : n × n, cls p.1 p.2 = c
  · -- the class sum of `ρU` is a subgradient of `L_c|·|` at `x_c`: optimality of the soft threshold, with
    -- `T − a x_c = ρ Σ (x_c + U_p) − ρ |c| x_c = ρ Σ U_p`
    have hcard : (0 : ℝ) < (Finset.univ.filter (fun p : n × n => cls p.1 p.2 = c)).card :=
      Nat.cast_pos.2 (Finset.card_pos.2 (hne.imp fun p hp => Finset.mem_filter.2 ⟨Finset.mem_univ p, hp⟩))
    obtain ⟨hg, hx⟩ := Aux.softThreshold_subgradient
      (rho * ∑ p : n × n with cls p.1 p.2 = c, (x c + U p.1 p.2)) _ _
      (Finset.sum_nonneg fun (p : n × n) _ => hLam p.1 p.2) (mul_pos hrho hcard)
    rw [hfix c hne, Finset.sum_add_distrib, Finset.sum_const, nsmul_eq_mul, mul_add,
      mul_assoc, add_sub_cancel_left] at hg hx
    exact Aux.abs_subgradient hg hx (y c)
  · rw [Finset.filter_eq_empty_iff.2 fun p _ hp => hne ⟨p, hp⟩]
    simp

/-- with no penalty the optimum is the inverse covariance: for positive definite `S`, `S⁻¹` minimises
`−log det Θ + tr(SΘ)` over all positive definite `Θ` (the classification is the identity). -/
theorem mle_is_inverse_covariance (S : Matrix n n ℝ) (hS : S.PosDef) (Y : Matrix n n ℝ) (hY : Y.PosDef) :
    glassoObj S 0 S⁻¹ ≤ glassoObj S 0 Y := by
  have hinv : (S⁻¹)⁻¹ = S := Matrix.nonsing_inv_nonsing_inv S ((isUnit_iff_ne_zero).mpr hS.det_pos.ne')
  -- identity classification; both class sums vanish: `Λ = 0` and `(S⁻¹)⁻¹ − S = 0`
  refine (glassoObj_le_of_classwise S 0 S⁻¹ (fun i j => (i, j)) (fun p => S⁻¹ p.1 p.2) (fun _ => 0) hS.inv
    (fun _ _ => rfl) Y (fun p => Y p.1 p.2) hY (fun _ _ => rfl) fun c => ?_).trans_eq
    (by rw [Finset.sum_const_zero, add_zero])
  simp only [hinv, sub_self, Matrix.zero_apply, Finset.sum_const_zero, zero_mul, add_zero, le_refl]

/-! ### TICC's classes: block-Toeplitz = constant on the classes -/

/-- index of a stacked window entry: (block `0..W-1`, sensor `0..N-1`) — the flat index is
`block * N + sensor`. -/
abbrev Idx (W N : ℕ) := Fin W × Fin N

/-- TICC's Toeplitz class of a matrix position, mirror positions folded together: block offset,
in-block row, in-block column (taken from the upper-triangle representative; inside a diagonal
block the unordered pair of sensors). -/
def ticcCls (W N : ℕ) (p q : Idx W N) : Fin W × Fin N × Fin N :=
  if p.1 < q.1 then (⟨q.1 - p.1, by omega⟩, p.2, q.2)
  else if q.1 < p.1 then (⟨p.1 - q.1, by omega⟩, q.2, p.2)
  else (⟨0, p.1.pos⟩, min p.2 q.2, max p.2 q.2)

theorem ticcCls_symm (W N : ℕ) (p q : Idx W N) : ticcCls W N p q = ticcCls W N q p := by
  unfold ticcCls
  by_cases h1 : p.1 < q.1
  · have h2 : ¬ q.1 < p.1 := by omega
    simp [h1, h2]
  · by_cases h2 : q.1 < p.1
    · simp [h1, h2]
    · simp only [h1, h2, if_false]
      rw [min_comm, max_comm]

/-- with `ticcCls_symm` this determines `ticcCls` (lexicographic order: block, then sensor). -/
theorem ticcCls_of_le {W N : ℕ} {p q : Idx W N} (h : toLex p ≤ toLex q) :
    ticcCls W N p q = (⟨q.1 - p.1, by omega⟩, p.2, q.2) := by
  unfold ticcCls
  rcases Prod.Lex.toLex_le_toLex.1 h with h | ⟨h, h'⟩
  · rw [if_pos h]
  · rw [if_neg (h ▸ lt_irrefl _), if_neg (h ▸ lt_irrefl _), min_eq_left h', max_eq_right h']
    simp [h]

/-- block-Toeplitz with symmetric leading block (C02's words): symmetric, and an entry depends only on
the block offset and the two in-block coordinates. -/
def IsBlockToeplitz (W N : ℕ) (M : Matrix (Idx W N) (Idx W N) ℝ) : Prop :=
  (∀ p q, M p q = M q p) ∧
  ∀ (bi bj bi' bj' : Fin W) (r c : Fin N), bi ≤ bj → bi' ≤ bj' →
    (bj : ℕ) - bi = bj' - bi' → M (bi, r) (bj, c) = M (bi', r) (bj', c)

/-- a matrix is block-Toeplitz (with symmetric leading block) exactly when it is constant on TICC's
classes. -/
theorem blockToeplitz_iff_class_constant (W N : ℕ) (M : Matrix (Idx W N) (Idx W N) ℝ) :
    IsBlockToeplitz W N M ↔ ∃ x : Fin W × Fin N × Fin N → ℝ, ∀ p q, M p q = x (ticcCls W N p q) := by
  constructor
  · rintro ⟨hs, ht⟩
    rcases Nat.eq_zero_or_pos W with rfl | hW
    · exact ⟨fun _ => 0, fun p => p.1.elim0⟩
    refine ⟨fun k => M (⟨0, hW⟩, k.2.1) (k.1, k.2.2), ?_⟩
    -- for `p` before `q` this is the Toeplitz clause, shifting `p`'s block to block `0`
    have key : ∀ p q : Idx W N, toLex p ≤ toLex q →
        M p q = M (⟨0, hW⟩, (ticcCls W N p q).2.1) ((ticcCls W N p q).1, (ticcCls W N p q).2.2) := by
      intro p q h
      rw [ticcCls_of_le h]
      exact ht p.1 q.1 ⟨0, hW⟩ ⟨q.1 - p.1, by omega⟩ p.2 q.2 (Prod.Lex.monotone_fst _ _ h)
        (Fin.mk_le_mk.mpr (Nat.zero_le _)) (Nat.sub_zero _).symm
    -- any two positions are in this order one way round; `M` and `ticcCls` are both symmetric
    intro p q
    rcases le_total (toLex p) (toLex q) with h | h
    · exact key p q h
    · rw [hs, ticcCls_symm]
      exact key q p h
  · rintro ⟨x, hx⟩
    refine ⟨fun p q => by rw [hx, hx, ticcCls_symm], ?_⟩
    intro bi bj bi' bj' r c h1 h2 hd
    rw [hx, hx]
    congr 1
    unfold ticcCls
    by_cases e1 : bi < bj
    · have e2 : bi' < bj' := by omega
      rw [if_pos e1, if_pos e2]
      exact congrArg (fun k => (k, r, c)) (Fin.ext hd)
    · have e1' : bi = bj := le_antisymm h1 (not_lt.mp e1)
      have e2' : bi' = bj' := by omega
      subst e1' e2'
      simp only [lt_irrefl, if_false]

/-- C02 IN ITS OWN WORDS: an ADMM fixed point whose matrix is block-Toeplitz (class values `x`) minimises
`−log det Θ + tr(SΘ) + ‖Λ∘Θ‖₁` over ALL symmetric positive definite block-Toeplitz matrices
(`W` distinct `N×N` blocks, symmetric leading block). -/
theorem ticc_admm_fixed_point_optimal (W N : ℕ) (S Lam X U : Matrix (Idx W N) (Idx W N) ℝ) (rho : ℝ)
    (hrho : 0 < rho) (x : Fin W × Fin N × Fin N → ℝ)
    (hX : X.PosDef) (hXc : ∀ p q, X p q = x (ticcCls W N p q)) (hLam : ∀ p q, 0 ≤ Lam p q)
    (hstat : X⁻¹ - S = rho • U)
    (hfix : ∀ c, (∃ p : Idx W N × Idx W N, ticcCls W N p.1 p.2 = c) →
      Numeric.softThreshold (rho * ∑ p : Idx W N × Idx W N with ticcCls W N p.1 p.2 = c, (x c + U p.1 p.2))
        (∑ p : Idx W N × Idx W N with ticcCls W N p.1 p.2 = c, Lam p.1 p.2)
        (rho * ((Finset.univ.filter (fun p : Idx W N × Idx W N => ticcCls W N p.1 p.2 = c)).card : ℝ)) = x c)
    (Y : Matrix (Idx W N) (Idx W N) ℝ) (hY : Y.PosDef) (hYt : IsBlockToeplitz W N Y) :
    IsBlockToeplitz W N X ∧ glassoObj S Lam X ≤ glassoObj S Lam Y := by
  obtain ⟨y, hy⟩ := (blockToeplitz_iff_class_constant W N Y).mp hYt
  exact ⟨(blockToeplitz_iff_class_constant W N X).mpr ⟨x, hXc⟩,
    admm_fixed_point_global_min S Lam X U rho hrho (ticcCls W N) x hX hXc hLam hstat hfix Y y hY hy⟩

end FastTicc.C02opt
