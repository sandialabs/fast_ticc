/-
Property C05 — reported log-likelihoods are exact Gaussian log-densities
(exact-arithmetic identity over ℝ; floating-point range is explored on the implementation).
Property theorems only; helper lemmas live in `FastTicc/Proofs/Stats.lean`.
-/
import FastTicc.Model.Numeric
import FastTicc.Proofs.Stats
import Mathlib.Analysis.SpecialFunctions.Pow.Real
import Mathlib.Analysis.SpecialFunctions.Log.Basic
import Mathlib.Analysis.Real.Sqrt
import Mathlib.Algebra.BigOperators.Ring.Finset
import Mathlib.Tactic.Ring

namespace FastTicc.Numeric

/-- the quadratic form the kernel computes is `Σ_i Σ_j d_i Θ_ij d_j`. -/
theorem quadForm_eq_sum (n : ℕ) (theta : ℕ → ℕ → ℝ) (d : ℕ → ℝ) :
    quadForm n theta d = ∑ j ∈ Finset.range n, ∑ i ∈ Finset.range n, d i * theta i j * d j := by
  unfold quadForm
  simp only [sumTo_eq_sum, Finset.sum_mul]

/-- `½(log det Θ − (x−μ)ᵀΘ(x−μ) − n·log c)` is the logarithm of the Gaussian density
`c^{−n/2} · (det Θ)^{1/2} · exp(−½ (x−μ)ᵀΘ(x−μ))` for every dimension `n`, every `det Θ > 0`
and every `c > 0` (the code uses `c = 2π`). -/
theorem ll_is_log_gaussian_density (n : ℕ) (c detTheta : ℝ) (hc : 0 < c) (hdet : 0 < detTheta)
    (theta : ℕ → ℕ → ℝ) (mu x : ℕ → ℝ) :
    logLik n (1 / 2) (Real.log detTheta) ((n : ℝ) * Real.log c) theta mu x =
      Real.log (c ^ (-(n : ℝ) / 2) * Real.sqrt detTheta *
        Real.exp (-(1 / 2) * quadForm n theta (fun i => x i - mu i))) := by
  have h1 : 0 < c ^ (-(n : ℝ) / 2) := Real.rpow_pos_of_pos hc _
  have h2 : 0 < Real.sqrt detTheta := Real.sqrt_pos.mpr hdet
  have h3 : 0 < Real.exp (-(1 / 2) * quadForm n theta (fun i => x i - mu i)) := Real.exp_pos _
  rw [Real.log_mul (mul_pos h1 h2).ne' h3.ne', Real.log_mul h1.ne' h2.ne', Real.log_rpow hc,
    Real.log_sqrt hdet.le, Real.log_exp]
  unfold logLik
  ring

/-- every cell of the table is the formula at (row `p`, mean and precision of cluster `k`),
whatever order the cells are evaluated in. -/
theorem ll_table_entry (n : ℕ) (half nwLog2pi : ℝ) (logDets : ℕ → ℝ) (thetas : ℕ → ℕ → ℕ → ℝ)
    (mus : ℕ → ℕ → ℝ) (data : ℕ → ℕ → ℝ) (p k : ℕ) :
    logLikTable n half nwLog2pi logDets thetas mus data p k =
      logLik n half (logDets k) nwLog2pi (thetas k) (mus k) (data p) := by
  rfl

/-- why `slogdet` and `log(det)` are the same real number: for positive pivots the log of their
product is the sum of their logs (only the second stays in floating-point range). -/
theorem log_prod_eq_sum_log (pivots : List ℝ) (hpos : ∀ p ∈ pivots, 0 < p) :
    Real.log pivots.prod = (pivots.map Real.log).sum :=
  Real.log_list_prod fun p hp => (hpos p hp).ne'

/-- the log-likelihood is monotone in the quadratic form: a point farther (in Θ-norm) from the
mean is less likely — sign check of the formula. -/
theorem logLik_antitone_in_quad (n : ℕ) (logDet c : ℝ) (theta : ℕ → ℕ → ℝ) (mu x y : ℕ → ℝ)
    (h : quadForm n theta (fun i => x i - mu i) ≤ quadForm n theta (fun i => y i - mu i)) :
    logLik n (1 / 2) logDet c theta mu y ≤ logLik n (1 / 2) logDet c theta mu x :=
  mul_le_mul_of_nonneg_left (sub_le_sub_right (sub_le_sub_left h _) _) (by norm_num)

end FastTicc.Numeric
