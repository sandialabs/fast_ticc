/-
Property C02 — the cluster MRF is the block-Toeplitz graphical-lasso optimum
(algebra of one ADMM iteration and of its fixed points; that the KKT certificate implies global
optimality is `Props/C02opt.lean`, convergence in exact arithmetic is `Props/C02conv.lean`; convergence
within the budget of 1000 sweeps in floating point is explored, not proved).
Property theorems and the definitions they are stated with; helper lemmas live in `FastTicc/Proofs/Admm.lean`.
-/
import FastTicc.Model.Numeric
import FastTicc.Proofs.Admm
import FastTicc.Props.C11
import Mathlib.Analysis.Real.Sqrt
import Mathlib.Algebra.BigOperators.Group.Finset.Basic

namespace FastTicc.Numeric
open FastTicc.Index

section soft
variable {α : Type} [Field α] [LinearOrder α] [IsStrictOrderedRing α]

/-- closed form: the soft threshold is `sign(s) · max(|s| − Λ, 0) / (ρ r)`. -/
theorem softThreshold_closed_form (s lam rr : α) (hl : 0 ≤ lam) (hr : 0 < rr) :
    softThreshold s lam rr =
      if lam < s then (s - lam) / rr else if s < -lam then (s + lam) / rr else 0 := by
  exact Aux.softThreshold_closed_form s lam rr hl hr

/-- the objective of one class in the Z-update: `Λ|z| + (ρ/2) Σ_l (z − s_l)²`. -/
def classObjective (lam rho : α) (ss : List α) (z : α) : α :=
  lam * |z| + rho / 2 * (ss.map (fun s => (z - s) * (z - s))).sum

/-- the value the Z-update writes minimises the class objective over all `z`
(`ρ > 0`, `Λ ≥ 0`, any non-empty list `s₁ … s_r` of the entries `x_l + u_l`). -/
theorem soft_threshold_minimises (lam rho : α) (ss : List α) (hl : 0 ≤ lam) (hrho : 0 < rho)
    (hne : ss ≠ []) (z : α) :
    classObjective lam rho ss (softThreshold (rho * ss.sum) lam (rho * (ss.length : α)))
      ≤ classObjective lam rho ss z := by
  have key := Aux.softThreshold_prox (rho * ss.sum) lam _ hl
    (mul_pos hrho (Nat.cast_pos.2 (List.length_pos_iff.2 hne))) z
  unfold classObjective
  rw [Aux.sum_sq_expand, Aux.sum_sq_expand]
  linear_combination key

/-- class-wise KKT at a fixed point: if every entry of the class already equals the value the
Z-update writes (`x_l = z*`), then with `g = ρ Σ_l u_l` (the class sum of `X⁻¹ − S`):
`g = Λ·sign(z*)` when `z* ≠ 0` and `|g| ≤ Λ` when `z* = 0`. -/
theorem fixed_point_class_kkt (lam rho zs : α) (us : List α) (hl : 0 ≤ lam) (hrho : 0 < rho)
    (hne : us ≠ [])
    (hfix : softThreshold (rho * (us.map (fun u => zs + u)).sum) lam (rho * (us.length : α)) = zs) :
    (0 < zs → rho * us.sum = lam) ∧ (zs < 0 → rho * us.sum = -lam) ∧
    (zs = 0 → |rho * us.sum| ≤ lam) := by
  obtain ⟨hg, hx⟩ := Aux.softThreshold_subgradient (rho * (us.map (fun u => zs + u)).sum) lam _ hl
    (mul_pos hrho (Nat.cast_pos.2 (List.length_pos_iff.2 hne)))
  have e : rho * (us.map (fun u => zs + u)).sum - rho * (us.length : α) * zs = rho * us.sum := by
    rw [List.sum_map_add, List.map_const', List.sum_replicate, nsmul_eq_mul, List.map_id']
    ring
  rw [hfix, e] at hg hx
  exact Aux.abs_subgradient_sign hg hx

/-- the scaled dual update `u + x − z` leaves `u` unchanged exactly when `x = z` (zero primal residual). -/
theorem uUpdate_fixed_iff (u x z : List α) (hx : x.length = u.length) (hz : z.length = u.length) :
    uUpdate u x z = u ↔ x = z := by
  exact Aux.uUpdate_fixed_iff u x z hx hz
end soft

section toeplitz
variable {α : Type} [Field α] [LinearOrder α] [IsStrictOrderedRing α]

/-- the Z-update output has the right length … -/
theorem zUpdate_length (rho : α) (lam : Lambda α) (N W : Nat) (u x : List α) :
    (zUpdate rho lam N W u x).length = x.length := by
  unfold zUpdate
  rw [Aux.foldl_blocks_length (classes N W) (fun k => locCompressed k.1 k.2.1 k.2.2 N W)
    (fun k => classValue rho lam (fun i => x.getD i 0 + u.getD i 0) k.1 k.2.1 k.2.2 N W)]
  exact List.length_replicate

/-- … and is block-Toeplitz: it is constant on every class, namely the class value
(later classes never overwrite earlier ones, by C11's partition). -/
theorem zUpdate_toeplitz (rho : α) (lam : Lambda α) (N W : Nat) (hN : 0 < N) (u x : List α)
    (hx : x.length = (N * W) * (N * W + 1) / 2)
    (k : Nat × Nat × Nat) (hk : k ∈ classes N W) :
    ∀ i ∈ locCompressed k.1 k.2.1 k.2.2 N W,
      (zUpdate rho lam N W u x)[i]? =
        some (classValue rho lam (fun i => x.getD i 0 + u.getD i 0) k.1 k.2.1 k.2.2 N W) := by
  have _ := hN
  intro i hi
  unfold zUpdate
  exact Aux.foldl_blocks_mem (classes N W) (fun k => locCompressed k.1 k.2.1 k.2.2 N W)
    (fun k => classValue rho lam (fun i => x.getD i 0 + u.getD i 0) k.1 k.2.1 k.2.2 N W)
    (List.replicate x.length 0) k hk i hi
    (by rw [List.length_replicate, hx]; exact locCompressed_lt N W k hk i hi)
    (fun k' hk' hi' => locCompressed_unique N W k k' hk hk' i hi hi')
end toeplitz

section xupdate
/-- stationarity of the X-update, eigenvalue by eigenvalue: for `A = Q diag(d) Qᵀ` the update sets
eigenvalue `e_i = (d_i + √(d_i² + 4ρ))/(2ρ)`, which satisfies `ρ e_i − 1/e_i = d_i` and `e_i > 0`;
so `X = Q diag(e) Qᵀ` is positive definite with `ρ X − X⁻¹ = A = ρ(Z − U) − S`. -/
theorem xUpdate_eigenvalues (rho : ℝ) (hrho : 0 < rho) (d : ℕ → ℝ) (i : ℕ) :
    0 < eigPinned Real.sqrt rho (d i) ∧
    rho * eigPinned Real.sqrt rho (d i) - (eigPinned Real.sqrt rho (d i))⁻¹ = d i := by
  exact ⟨Aux.eig_pos rho (d i) hrho, Aux.eig_stationary rho (d i) hrho⟩
end xupdate

/-- non-vacuity of the fixed-point hypothesis: a class of two entries at its soft-threshold value. -/
example : softThreshold ((1 : ℚ) * ([1 + 1/2, 1 + 1/2].sum)) 1 (1 * 2) = 1 := by
  decide +kernel

end FastTicc.Numeric
