/-
The translator's reading of a Python `for x in xs: body` whose body may `break` - a monadic fold `Py.forEachE` over the
loop-carried state extended by a flag, every iteration guarded by `if flag then pure state else …` - against the direct
semantics of such a loop: iterate over the list, leave the loop at the first state in which a `break` was executed, stop at
the first error.
-/
import FastTicc.Model.Py
open FastTicc

namespace FastTicc.PyFor
section
variable {β σ : Type}

/-- `for x in xs: s = step(x, s)`, leaving the loop once `broke s` holds, propagating the first error -/
def forBreak (step : β → σ → Except String σ) (broke : σ → Bool) : List β → σ → Except String σ
  | [], s => .ok s
  | x :: xs, s =>
    if broke s then .ok s
    else match step x s with
      | .error e => .error e
      | .ok s' => forBreak step broke xs s'

theorem forBreak_broke (step : β → σ → Except String σ) (broke : σ → Bool) (xs : List β) (s : σ)
    (h : broke s = true) : forBreak step broke xs s = .ok s := by
  cases xs <;> simp [forBreak, h]

/-- **the guarded fold is the `for … break` loop** -/
theorem forEachE_guarded_eq_forBreak (step : β → σ → Except String σ) (broke : σ → Bool) :
    ∀ (xs : List β) (s : σ),
      Py.forEachE xs s (fun x st => if broke st then pure st else step x st) = forBreak step broke xs s := by
  intro xs
  induction xs with
  | nil => intro s; rfl
  | cons x t ih =>
    intro s
    unfold Py.forEachE at ih ⊢
    rw [List.foldlM_cons]
    by_cases hs : broke s = true
    · -- once the flag is set, the remaining guarded iterations do nothing
      rw [forBreak_broke step broke _ s hs]
      simp only [hs, if_true]
      exact (ih s).trans (forBreak_broke step broke t s hs)
    · simp only [hs, Bool.false_eq_true, if_false, forBreak]
      cases hstep : step x s with
      | error e => rfl
      | ok s' => exact ih s'

/-- a body that does nothing once the flag is set is a `for … break` loop, however its guard is spelled -/
theorem forEachE_eq_forBreak (body : β → σ → Except String σ) (broke : σ → Bool)
    (h : ∀ x s, broke s = true → body x s = .ok s) (xs : List β) (s : σ) :
    Py.forEachE xs s body = forBreak body broke xs s := by
  rw [← forEachE_guarded_eq_forBreak]
  congr 1
  funext x st
  split
  · exact h x st ‹_›
  · rfl

/-- a loop that never breaks and never fails is the plain fold -/
theorem forBreak_no_break (step : β → σ → σ) (broke : σ → Bool) (hnever : ∀ s, broke s = false) :
    ∀ (xs : List β) (s : σ), forBreak (fun x st => .ok (step x st)) broke xs s = .ok (xs.foldl (fun st x => step x st) s) := by
  intro xs
  induction xs with
  | nil => intro s; rfl
  | cons x t ih => intro s; simp [forBreak, hnever s, ih]
end
end FastTicc.PyFor
