/-
Whole-solve theorems: `AdmmSolve.solve` — the translated sweep, the concrete Z and U updates, the
stopping rule on recorded norms and the loop, composed — for every covariance-dependent oracle (the X
update's outputs, the norms), every sparsity weight, every (N, W) and every budget:
the number of sweeps is within the budget and at least two when the budget allows; what is returned is
the X update's output of the last sweep performed; the state of every sweep is X from the oracle, Z the
class-wise soft threshold of (X, U) — constant on every Toeplitz class —, and U = U + X − Z.
-/
import FastTicc.Model.AdmmSolve
import FastTicc.Props.Compose
import FastTicc.Props.C02

namespace FastTicc.AdmmSolve
open FastTicc FastTicc.MainLoop FastTicc.Numeric FastTicc.Index

variable {α : Type} [Field α] [LinearOrder α] [IsStrictOrderedRing α]

/-- one sweep, spelled out: X is the oracle's output for this sweep, Z is computed from the NEW X and the
old U, U from the old U, the new X and the new Z. -/
theorem step_spec (rho : α) (lam : Lambda α) (N W : Nat) (orc : Oracles α) (s : Admm (St α)) :
    let x' := orc.x s.x.it
    let z' := zUpdate rho lam N W s.x.u x'
    (step rho lam N W orc s).x = ⟨s.x.it + 1, z', uUpdate s.x.u x' z', x'⟩ ∧
    (step rho lam N W orc s).z = (step rho lam N W orc s).x ∧
    (step rho lam N W orc s).u = (step rho lam N W orc s).x := by
  intro x' z'
  refine ⟨?_, rfl, rfl⟩
  unfold step
  simp only [sweep_translated_eq_spec, sweepSpec]
  rfl

/-- the number of sweeps is between 1 and the budget, and at least 2 when the budget allows: the rule is
never consulted after the first sweep. -/
theorem solve_sweeps_bounds (rho : α) (lam : Lambda α) (N W maxIter : Nat) (sqrtN absTol relTol slack : α)
    (orc : Oracles α) (len : Nat) (hm : 1 ≤ maxIter) :
    1 ≤ (solve rho lam N W maxIter sqrtN absTol relTol slack orc len).2 ∧
    (solve rho lam N W maxIter sqrtN absTol relTol slack orc len).2 ≤ maxIter ∧
    (2 ≤ maxIter → 2 ≤ (solve rho lam N W maxIter sqrtN absTol relTol slack orc len).2) := by
  -- `solve` is `admmRun` on these sweeps and this rule, without a rho update, from the all-zero state
  obtain ⟨_, a1, a2, a3, _⟩ := admmRun_spec (step rho lam N W orc)
    (stop sqrtN absTol relTol slack orc) (fun s _ => s) maxIter (Nat.ne_of_gt hm)
    ⟨0, List.replicate len 0, List.replicate len 0, List.replicate len 0⟩
  exact ⟨a1, a2, a3⟩

/-- what the solver returns is a state produced by a sweep: its X is the X update's output of that sweep
(returned as is — the solver returns X, not the sparse Z), its Z is the Z update of that X, and that Z is
constant on every Toeplitz class. -/
theorem solve_returns_sweep_state (rho : α) (lam : Lambda α) (N W maxIter : Nat) (hN : 0 < N)
    (sqrtN absTol relTol slack : α) (orc : Oracles α) (hm : 1 ≤ maxIter)
    (hx : ∀ i, (orc.x i).length = (N * W) * (N * W + 1) / 2) :
    let r := (solve rho lam N W maxIter sqrtN absTol relTol slack orc ((N * W) * (N * W + 1) / 2)).1
    ∃ uPrev : List α, ∃ i : Nat,
      r.x = orc.x i ∧ r.z = zUpdate rho lam N W uPrev (orc.x i) ∧ r.u = uUpdate uPrev (orc.x i) r.z ∧
      ∀ k ∈ classes N W, ∀ j ∈ locCompressed k.1 k.2.1 k.2.2 N W,
        r.z[j]? = some (classValue rho lam (fun t => (orc.x i).getD t 0 + uPrev.getD t 0) k.1 k.2.1 k.2.2 N W) := by
  intro r
  -- without a rho update the solver returns the state some sweep produced from a state `sPrev`
  obtain ⟨sPrev, _, _, _, _, a5⟩ := admmRun_spec (step rho lam N W orc)
    (stop sqrtN absTol relTol slack orc) (fun s _ => s) maxIter (Nat.ne_of_gt hm)
    (⟨0, List.replicate _ 0, List.replicate _ 0, List.replicate _ 0⟩ : St α)
  have hr : r = _ := (a5 fun _ _ => rfl).trans (step_spec rho lam N W orc sPrev).1
  rw [hr]
  exact ⟨sPrev.x.u, sPrev.x.it, rfl, rfl, rfl,
    zUpdate_toeplitz rho lam N W hN sPrev.x.u (orc.x sPrev.x.it) (hx _)⟩

/-- non-vacuity: a 1×1 problem (N = W = 1) whose X oracle returns 1/2 every sweep and whose rule fires at
the second sweep returns X = 1/2 after two sweeps with Z = soft-threshold((1/2 + u)·1, λ, 1). -/
example :
    let orc : Oracles Rat := ⟨fun _ => [1/2], fun _ => ⟨0, 0, 0, 0, 0⟩⟩
    (solve (1 : Rat) (.scalar (1/4)) 1 1 10 1 0 0 1 orc 1).2 = 2 ∧
    (solve (1 : Rat) (.scalar (1/4)) 1 1 10 1 0 0 1 orc 1).1.x = [1/2] := by
  decide +kernel

end FastTicc.AdmmSolve
