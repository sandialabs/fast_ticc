/-
TRANSLATED CODE = MODEL (bayesian_information_criterion of cluster_metrics.py, property C16).  `Generated/Kernels.lean` is
rewritten from the Python AST of `$REPO/src/fast_ticc` by `harness/py2lean.py` on every run; the theorems below are about
that generated definition.  `model` is the record of what the function reads of a model state (cluster count, MRFs,
empirical covariances, labels); `np.linalg.slogdet(·)[1]` and `np.log` are function parameters (`logdetOf`, `logOfInt`);
`np.trace(np.dot(A, B))` and `np.sum(np.abs(M) > t)` are primitives of `Model/Py.lean`; the dict is a list of (key, value)
pairs; the threshold is the exact rational value of the double the source spells `2e-5`.
-/
import FastTicc.Generated.Kernels
import FastTicc.Proofs.Translated
import FastTicc.Model.Result
import FastTicc.Props.C16
import Mathlib.Algebra.Order.Field.Basic
open FastTicc FastTicc.PyLemmas

namespace FastTicc.Translated
section
variable {α : Type} [Field α] [LinearOrder α]

/-- the sentinel the run-counting loop starts from: `-1` for "no previous label" -/
def encLast : Option Nat → Int
  | none => -1
  | some l => (l : Int)

omit [Field α] [LinearOrder α] in
theorem cast_eq_encLast (l : Nat) (last : Option Nat) : (l : Int) = encLast last ↔ last = some l := by
  cases last with
  | none => simp only [encLast, reduceCtorEq]
  | some x => simp only [encLast, Nat.cast_inj, Option.some.injEq, eq_comm]

omit [Field α] [LinearOrder α] in
/-- the run-counting loop of the BIC (`if label != last: total += params[label]; last = label`) is `Result.runsParamsAux` -/
theorem runs_loop (params : Nat → Nat) (d : Py.IntMap Int) (K : Nat)
    (hd : ∀ k, k < K → Py.IntMap.get d (k : Int) = ((params k : Nat) : Int)) :
    ∀ (labels : List Nat), (∀ l ∈ labels, l < K) → ∀ (nz : Int) (last : Option Nat),
      (labels.map (fun (l : Nat) => (l : Int))).foldl
        (fun (s : Int × Int) (point_label : Int) =>
          ((if decide (point_label ≠ s.2) = true then (s.1 + Py.IntMap.get d point_label, point_label) else (s.1, s.2)).1,
           (if decide (point_label ≠ s.2) = true then (s.1 + Py.IntMap.get d point_label, point_label) else (s.1, s.2)).2))
        (nz, encLast last)
      = (nz + ((Result.runsParamsAux params last labels : Nat) : Int),
         encLast (match labels.getLast? with | some l => some l | none => last)) := by
  intro labels
  induction labels with
  | nil => intro _ nz last; simp [Result.runsParamsAux]
  | cons l t ih =>
    intro hl nz last
    have ht : ∀ x ∈ t, x < K := fun x hx => hl x (List.mem_cons_of_mem l hx)
    have hlast : (match (l :: t).getLast? with | some x => some x | none => last)
        = (match t.getLast? with | some x => some x | none => some l) := by
      rw [List.getLast?_cons]
      cases t.getLast? <;> rfl
    simp only [List.map_cons, List.foldl_cons, Result.runsParamsAux, hlast, ne_eq, cast_eq_encLast]
    by_cases hsame : last = some l
    · simp only [hsame, not_true_eq_false, decide_false, Bool.false_eq_true, if_false, if_true]
      rw [ih ht nz (some l), Nat.zero_add]
    · simp only [hsame, not_false_eq_true, decide_true, if_true, if_false, hd l (hl l List.mem_cons_self)]
      rw [show ((l : Nat) : Int) = encLast (some l) from rfl, ih ht _ (some l), Nat.cast_add, add_assoc]


omit [Field α] [LinearOrder α] in
theorem intMap_get_set {β} [Inhabited β] (d : Py.IntMap β) (k j : Int) (v : β) :
    Py.IntMap.get (Py.IntMap.set d k v) j = if k = j then v else Py.IntMap.get d j := by
  unfold Py.IntMap.get Py.IntMap.set
  by_cases h : k = j
  · subst h; simp
  · simp [h]

/-- the per-cluster loop of the BIC: after `m` clusters the accumulator holds the sum of `log det Θ_k - tr(Θ_k S_k)` and the
dict holds every cluster's count of entries above the threshold -/
theorem bic_cluster_loop (logdetOf : Py.Arr2 α → α) (thetas Ss : List (Py.Arr2 α)) (thr init : α) (m : Nat) :
    let s := (List.range m).foldl (fun (s : α × Py.IntMap Int) (k : Nat) =>
        (s.1 + (logdetOf (Py.getItem thetas (k : Int)) - Py.traceDot (Py.getItem thetas (k : Int)) (Py.getItem Ss (k : Int))),
         Py.IntMap.set s.2 (k : Int) (Py.countAbove (Py.getItem thetas (k : Int)) thr))) (init, ([] : Py.IntMap Int))
    s.1 = (List.range m).foldl (fun acc (k : Nat) =>
        acc + (logdetOf (Py.getItem thetas (k : Int)) - Py.traceDot (Py.getItem thetas (k : Int)) (Py.getItem Ss (k : Int)))) init ∧
    ∀ k, k < m → Py.IntMap.get s.2 (k : Int) = Py.countAbove (Py.getItem thetas (k : Int)) thr := by
  induction m with
  | zero => exact ⟨rfl, fun _ hk => absurd hk (Nat.not_lt_zero _)⟩
  | succ j ih =>
    simp only [List.range_succ, List.foldl_append, List.foldl_cons, List.foldl_nil]
    obtain ⟨h1, h2⟩ := ih
    refine ⟨by rw [h1], ?_⟩
    intro k hk
    rw [intMap_get_set]
    by_cases hkj : j = k
    · rw [hkj, if_pos rfl]
    · rw [if_neg (mt Int.ofNat_inj.mp hkj)]
      exact h2 k (Nat.lt_of_le_of_ne (Nat.le_of_lt_succ hk) (Ne.symm hkj))

theorem countAbove_toNat (M : Py.Arr2 α) (t : α) : (((Py.countAbove M t).toNat : Nat) : Int) = Py.countAbove M t := by
  rw [Py.countAbove, Int.toNat_natCast]

/-- the translated count `np.sum(np.abs(M) > t)` is the model's `nnz` of the matrix's rows -/
theorem countAbove_eq_nnz (M : Py.Arr2 α) (t : α) : Py.countAbove M t = ((Result.nnz t M.toLists : Nat) : Int) := by
  unfold Py.countAbove Result.nnz Py.Arr2.toLists
  rw [List.map_map, List.foldl_map]
  congr 2
  funext acc r
  simp only [Function.comp, List.filter_map, List.length_map, Result.absv, zero_sub]
  rfl

/-- **the translated BIC is the model's BIC**: `P · log T − 2 · Σ_k (log det Θ_k − tr(Θ_k S_k))` with `P` counted run by
run (`Result.runsParams`) from each cluster's number of entries above the threshold the source spells `2e-5`; `log det`
and `log T` are parameters (`np.linalg.slogdet(·)[1]`, `np.log`). -/
theorem bayesian_information_criterion_eq (logdetOf : Py.Arr2 α → α) (logOfInt : Int → α) (K : Nat)
    (thetas Ss : List (Py.Arr2 α)) (labels : List Nat) (hl : ∀ l ∈ labels, l < K) :
    Gen.bayesian_information_criterion logdetOf logOfInt
        ⟨(K : Int), thetas, Ss, labels.map (fun (l : Nat) => (l : Int))⟩
      = Result.bic
          (Result.runsParams (fun (k : Nat) => (Py.countAbove (Py.getItem thetas (k : Int))
              ((((5902958103587057 : Int) : α) / ((295147905179352825856 : Int) : α)))).toNat) labels)
          (logOfInt (labels.length : Int))
          ((List.range K).foldl (fun acc (k : Nat) =>
              acc + (logdetOf (Py.getItem thetas (k : Int)) - Py.traceDot (Py.getItem thetas (k : Int)) (Py.getItem Ss (k : Int)))) 0) := by
  unfold Gen.bayesian_information_criterion
  simp only [forEach_range]
  unfold Py.forEach
  obtain ⟨h1, h2⟩ := bic_cluster_loop logdetOf thetas Ss
    ((((5902958103587057 : Int) : α) / ((295147905179352825856 : Int) : α))) (((0 : Int) : α)) K
  -- the dict built by the first loop is read by the second only at labels below `K`
  have hr := runs_loop _ _ K (fun k hk => (h2 k hk).trans (countAbove_toNat _ _).symm) labels hl 0 none
  simp only [encLast] at hr
  rw [hr, h1]
  simp [Result.bic, Result.runsParams, Py.len]

end
end FastTicc.Translated
