/-
TRANSLATED CODE = MODEL (split_joint_labels of data_preparation.py, properties C04 / C10).  `Generated/Kernels.lean` is rewritten from the Python AST of
`$REPO/src/fast_ticc` by `harness/py2lean.py` on every run; the theorems below are about those generated
definitions and prove, for ALL inputs, that they compute what the hand-written model computes - the model the
property theorems are about.  They only keep checking while the source still says what the model says.
-/
import FastTicc.Generated.Kernels
import FastTicc.Proofs.Translated
import FastTicc.Proofs.Stack
open FastTicc FastTicc.PyLemmas FastTicc.Stack

namespace FastTicc.Translated

theorem split_joint_labels_eq (joint : List Int) (lens : List Nat) :
    Gen.split_joint_labels joint (lens.map (fun (x : Nat) => (x : Int)))
      = if joint.length = lens.sum then .ok (Stack.splitJoint joint lens) else .error "AssertionError" := by
  unfold Gen.split_joint_labels
  rw [sum_natCast]
  by_cases h : joint.length = lens.sum
  · simp only [h, decide_true, Bool.not_true, Bool.false_eq_true, if_false, if_true, Py.len, List.length_map]
    -- `accumulate(lens)[i]` is where series `i` ends
    have hacc : Py.accumulate (lens.map (fun (x : Nat) => (x : Int)))
        = (List.range lens.length).map (fun i => ((pref lens (i + 1) : Nat) : Int)) := by
      rw [accumulate_natCast, accumulate_eq_map, List.map_map]
      rfl
    rw [forEach_range, hacc, splitJoint_eq_map]
    -- the loop appends slice `i` of the joint list: from the end of series `i - 1` (0 for the first) to the end of series `i`
    rw [foldl_range_eq (g := fun m => (List.range m).map (fun i => (joint.drop (pref lens i)).take (lens.getD i 0)))]
    · rfl
    · rfl
    · intro i hi
      have hstart : (if decide ((i : Int) = 0) = true then (0 : Int)
            else Py.getItem ((List.range lens.length).map (fun i => ((pref lens (i + 1) : Nat) : Int))) ((i : Int) - 1))
          = ((pref lens i : Nat) : Int) := by
        rcases Nat.eq_zero_or_pos i with rfl | h0
        · rfl
        · rw [if_neg (by simpa using Nat.ne_of_gt h0), ← Int.natCast_pred_of_pos h0,
            getItem_map_range _ _ _ (Nat.lt_of_le_of_lt (Nat.sub_le i 1) hi), Nat.sub_add_cancel h0]
      have hle : pref lens (i + 1) ≤ joint.length := h ▸ pref_le_sum lens (i + 1)
      rw [hstart, getItem_map_range _ _ _ hi, slice_natCast joint _ _ (by rw [pref_succ lens i hi]; exact Nat.le_add_right _ _) hle,
        pref_succ lens i hi, Nat.add_sub_cancel_left, List.range_succ, List.map_append, Py.append]
      simp [List.getD_eq_getElem?_getD, hi]
  · have hc : ¬ (Py.len joint = ((lens.sum : Nat) : Int)) := by simp [Py.len]; omega
    simp only [hc, h, decide_false, Bool.not_false, if_true, if_false]
    rfl

end FastTicc.Translated
