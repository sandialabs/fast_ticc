/-
Property C07 (mask half) — the helper that builds the per-pair switching-cost mask puts
its zeros on exactly the pairs that straddle two series.
Helper lemmas live in `FastTicc/Proofs/Stack.lean`.
-/
import FastTicc.Model.Stack
import FastTicc.Proofs.Stack

namespace FastTicc.Stack

theorem maskTemplate_binary (lens : List Nat) : ∀ x ∈ maskTemplate lens, x = 0 ∨ x = 1 := by
  intro x hx
  simp only [maskTemplate, List.mem_map] at hx
  obtain ⟨i, _, rfl⟩ := hx
  split <;> simp

/-- for all tuples of positive stacked lengths: entry `i` (which prices the pair
`(i, i+1)`) is zero iff the two points belong to different series. -/
theorem mask_zero_iff_boundary (lens : List Nat) (hpos : ∀ n ∈ lens, 0 < n) (i : Nat)
    (hi : i + 1 < lens.sum) :
    (maskTemplate lens)[i]? = some 0 ↔ seriesOf lens i ≠ seriesOf lens (i + 1) := by
  rw [mask_getElem? lens hpos i (Nat.lt_of_succ_lt hi), Option.some.injEq]
  simp [hi]

/-- the last entry prices no pair; it stays 1. -/
theorem mask_last_one (lens : List Nat) (hpos : ∀ n ∈ lens, 0 < n) (h : 0 < lens.sum) :
    (maskTemplate lens)[lens.sum - 1]? = some 1 := by
  rw [mask_getElem? lens hpos _ (Nat.sub_lt h Nat.one_pos),
    if_neg fun hP => absurd hP.2 (by rw [Nat.sub_add_cancel h]; exact Nat.lt_irrefl _)]

/-- a single series gives the all-ones mask (so joint labelling of one series hands the
kernel the same switching cost as the single-series front end). -/
theorem mask_single (n : Nat) : maskTemplate [n] = List.replicate n 1 := by
  simp [maskTemplate, accumulate, List.eq_replicate_iff]

/-- number of zeros = number of series boundaries. -/
theorem mask_zero_count (lens : List Nat) (hpos : ∀ n ∈ lens, 0 < n) :
    (maskTemplate lens).count 0 = lens.length - 1 := by
  induction lens with
  | nil => rfl
  | cons x xs ih =>
    obtain ⟨m, rfl⟩ : ∃ m, x = m + 1 := ⟨x - 1, (Nat.sub_add_cancel (hpos x List.mem_cons_self)).symm⟩
    cases xs with
    | nil => simp [mask_single, List.count_replicate]
    | cons y ys =>
      have ih' := ih (fun n hn => hpos n (List.mem_cons_of_mem _ hn))
      rw [maskTemplate_cons_cons m y ys (hpos y (by simp)), List.count_append, List.count_cons_self,
        ih']
      simp [List.count_replicate]

/-- the pinned helper (zeros *at* the cumulative lengths) is shifted by one position:
it zeroes a within-series pair and leaves a boundary pair priced. -/
theorem mask_pinned_shifted :
    let lens := [3, 2, 4]
    (maskTemplatePinned lens)[3]? = some 0 ∧ seriesOf lens 3 = seriesOf lens 4 ∧
    (maskTemplatePinned lens)[2]? = some 1 ∧ seriesOf lens 2 ≠ seriesOf lens 3 ∧
    maskTemplate lens = [1, 1, 0, 1, 0, 1, 1, 1, 1] := by
  decide

end FastTicc.Stack
