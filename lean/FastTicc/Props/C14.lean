/-
Property C14 — results are independent of process scheduling (scheduling skeleton).
Property theorems and the definitions they are stated with; helper lemmas live in `FastTicc/Proofs/MainLoop.lean`.
Bitwise reproducibility of the numerics is observed by the correspondence, not proved.
-/
import FastTicc.Model.MainLoop
import FastTicc.Proofs.MainLoop

namespace FastTicc.MainLoop

/-- whatever order the K tasks complete in (every task at least once, e.g. any permutation),
what is gathered in cluster order is `f 0, …, f (K-1)`. -/
theorem gather_schedule_independent {β : Type} (f : Nat → β) (K : Nat) (sched : List Nat)
    (hall : ∀ k, k < K → k ∈ sched) (hin : ∀ k ∈ sched, k < K) :
    complete f K sched = (List.range K).map (fun k => some (f k)) := by
  -- `hin` is not needed: an out-of-range write is a no-op of `List.set`.
  have _ := hin
  have h := foldl_set_all (fun k => some (f k)) (List.replicate K none) sched
  rw [List.length_replicate] at h
  exact h hall

/-- two schedules give the same gathered results. -/
theorem gather_any_two_schedules {β : Type} (f : Nat → β) (K : Nat) (s₁ s₂ : List Nat)
    (h₁ : s₁.Perm (List.range K)) (h₂ : s₂.Perm (List.range K)) :
    complete f K s₁ = complete f K s₂ := by
  -- the `K` slots are the cells of the initial, all-`none` table
  rw [← List.length_replicate (n := K) (a := (none : Option β))] at h₁ h₂
  exact foldl_set_perm (fun k => some (f k)) _ h₁ h₂

/-- a memo table all of whose entries are correct. -/
def TableOk {κ β : Type} (f : κ → β) (table : List (κ × β)) : Prop := ∀ p ∈ table, p.2 = f p.1

/-- `functools.cache` is transparent: lookup-or-insert returns `f x` and keeps the table correct … -/
theorem cache_transparent {κ β : Type} [DecidableEq κ] (f : κ → β) (table : List (κ × β)) (x : κ)
    (h : TableOk f table) : (cached f table x).1 = f x ∧ TableOk f (cached f table x).2 := by
  unfold cached
  cases hl : table.lookup x with
  | some v =>
    obtain ⟨l₁, l₂, rfl, -⟩ := List.lookup_eq_some_iff.1 hl
    exact ⟨h (x, v) (List.mem_append_right l₁ List.mem_cons_self), h⟩
  | none =>
    refine ⟨rfl, ?_⟩
    intro p hp
    rcases List.mem_cons.1 hp with hp | hp
    · rw [hp]
    · exact h p hp

/-- … so after any history of earlier calls (other shapes), every call returns what the
un-memoised function returns. -/
theorem cache_history_transparent {κ β : Type} [DecidableEq κ] (f : κ → β) (table : List (κ × β))
    (xs : List κ) (h : TableOk f table) :
    (cachedCalls f table xs).1 = xs.map f ∧ TableOk f (cachedCalls f table xs).2 := by
  induction xs generalizing table with
  | nil => exact ⟨rfl, h⟩
  | cons x xs ih =>
    obtain ⟨c1, c2⟩ := cache_transparent f table x h
    obtain ⟨i1, i2⟩ := ih (cached f table x).2 c2
    simp only [cachedCalls, List.map_cons]
    exact ⟨by rw [c1, i1], i2⟩

end FastTicc.MainLoop
