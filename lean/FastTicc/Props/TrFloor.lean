/-
TRANSLATED CODE = MODEL (`_zero_small_elements` of graphical_lasso.py, property C03: the covariance floor).
`Generated/Kernels.lean` is rewritten from the Python AST of `$REPO/src/fast_ticc` by `harness/py2lean.py` on every run; the
theorem below is about that generated definition.  Arrays are values (`np.copy` is the identity and the `copy` flag, which
only decides whose buffer is written, drops out); `(M < eps) & (M > -eps)` is a boolean matrix and `M[mask] = 0` the masked
store of `Model/Py.lean`.
-/
import FastTicc.Generated.Kernels
import FastTicc.Model.Numeric
import Mathlib.Algebra.Order.Field.Basic
open FastTicc

namespace FastTicc.Translated
section
variable {α : Type} [Field α] [LinearOrder α]

/-- **the translated covariance floor is `Numeric.floorFilter`, entry by entry**: for every matrix, threshold and value of the
`copy` flag the translated `_zero_small_elements` returns the matrix of the same shape whose entries strictly inside
`(-eps, eps)` are `0` and whose other entries are untouched - the filter `floor_filter_*` of `Props/C03` are about. -/
theorem zero_small_elements_eq (M : Py.Arr2 α) (eps : α) (copy : Bool) :
    Gen._zero_small_elements M eps copy = ⟨M.rows, M.cols, fun r c => Numeric.floorFilter eps (M.get r c)⟩ := by
  unfold Gen._zero_small_elements Py.Arr2.setWhere Py.Mask2.and Py.Arr2.ltScalar Py.Arr2.gtScalar Numeric.floorFilter
  -- the two branches on `copy` are the same text
  simp only [ite_self, zero_sub, Bool.and_eq_true, decide_eq_true_eq]

/-- the flag does not matter for the value (it matters for WHOSE array is written: C13 / C19) -/
theorem zero_small_elements_copy_irrelevant (M : Py.Arr2 α) (eps : α) :
    Gen._zero_small_elements M eps true = Gen._zero_small_elements M eps false := by
  rw [zero_small_elements_eq, zero_small_elements_eq]

end
end FastTicc.Translated
