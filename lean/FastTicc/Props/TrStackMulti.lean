/-
TRANSLATED CODE = MODEL (stack_training_data_multiple_series of data_preparation.py, properties C07 / C10).
`Generated/Kernels.lean` is rewritten from the Python AST of `$REPO/src/fast_ticc` by `harness/py2lean.py` on every run; the
theorems below are about those generated definitions.  They only keep checking while the source still says what the model
says.
-/
import FastTicc.Props.TrStack
open FastTicc FastTicc.PyLemmas

namespace FastTicc.Translated
section
variable {α : Type} [Zero α] [Add α] [Sub α] [LT α] [DecidableLT α]

omit [Add α] [Sub α] [LT α] [DecidableLT α] in
theorem vstackGet_rows (N : Nat) : ∀ l : List (Py.Arr2 α),
    (List.range (l.map (·.rows)).sum).map (fun r => (List.range N).map (Py.vstackGet l r))
      = l.flatMap (fun a => (List.range a.rows).map (fun r => (List.range N).map (a.get r)))
  | [] => rfl
  | a :: t => by
    rw [List.map_cons, List.sum_cons, List.range_add, List.map_append, List.map_map, List.flatMap_cons,
      ← vstackGet_rows N t]
    congr 1
    · refine List.map_congr_left fun r hr => ?_
      simp only [Py.vstackGet, List.mem_range.mp hr, if_true]
    · refine List.map_congr_left fun r _ => ?_
      simp only [Function.comp, Py.vstackGet, Nat.not_lt.mpr (Nat.le_add_right _ _), if_false, Nat.add_sub_cancel_left]

omit [Add α] [Sub α] [LT α] [DecidableLT α] in
theorem vstack_toLists (N : Nat) (l : List (Py.Arr2 α)) (hne : l ≠ []) (hN : ∀ a ∈ l, a.cols = N) :
    (Py.vstack l).toLists = l.flatMap (fun a => a.toLists) := by
  obtain ⟨a, t, rfl⟩ := List.exists_cons_of_ne_nil hne
  unfold Py.vstack Py.Arr2.toLists
  simp only [List.head?_cons, Option.map_some, Option.getD_some]
  rw [hN a List.mem_cons_self, vstackGet_rows N]
  refine List.flatMap_congr fun b hb => ?_
  rw [hN b hb]

/-- **the translated joint stacking is the model's**: the rows of the brick are the concatenation, in input order, of
the stackings of the individual series (`Stack.stackMulti`), for series of `N` columns and `W ≤ T_s + 1`. -/
theorem stack_training_data_multiple_series_eq (series : List (Py.Arr2 α)) (W N : Nat) (hne : series ≠ [])
    (hW : ∀ a ∈ series, W ≤ a.rows + 1) (hN : ∀ a ∈ series, a.cols = N) :
    (Gen.stack_training_data_multiple_series series (W : Int)).toLists
      = Stack.stackMulti (series.map (fun a => a.toLists)) W := by
  unfold Gen.stack_training_data_multiple_series Stack.stackMulti
  rw [vstack_toLists (N * W) _ (by simpa using hne), List.flatMap_map, List.flatMap_map]
  · exact List.flatMap_congr fun a ha => stack_training_data_eq a W (hW a ha)
  · intro x hx
    obtain ⟨a, ha, rfl⟩ := List.mem_map.mp hx
    rw [(stack_training_data_cells a W (hW a ha)).2.1, hN a ha]

end
end FastTicc.Translated
