/-
The primitive `Py.whileRet` - the translator's reading of a Python `while cond: body` whose body may `return` - against a
relational (big-step) semantics of such a loop: whatever `whileRet` computes with any amount of fuel is what the loop does
(soundness), whatever the loop does is computed with enough fuel (completeness), the loop does at most one thing
(determinism), and more fuel never changes an answer already given.  The fuel named in a translator spec therefore only
decides WHETHER an answer is produced, never WHICH - and each equivalence theorem shows its bound is never hit.
-/
import FastTicc.Model.Py
open FastTicc

namespace FastTicc.PyWhile
section
variable {σ ρ : Type}

/-- big-step semantics of `while cond(s): s = body(s)` where the body may `return r` (`Sum.inl r`) -/
inductive Runs (cond : σ → Bool) (body : σ → Sum ρ σ) : σ → Sum ρ σ → Prop
  | exit (s : σ) : cond s = false → Runs cond body s (Sum.inr s)
  | ret (s : σ) (r : ρ) : cond s = true → body s = Sum.inl r → Runs cond body s (Sum.inl r)
  | step (s s' : σ) (out : Sum ρ σ) : cond s = true → body s = Sum.inr s' → Runs cond body s' out → Runs cond body s out

theorem whileRet_sound (cond : σ → Bool) (body : σ → Sum ρ σ) :
    ∀ (fuel : Nat) (s : σ) (out : Sum ρ σ), Py.whileRet fuel cond body s = some out → Runs cond body s out := by
  intro fuel
  induction fuel with
  | zero => intro s out h; simp [Py.whileRet] at h
  | succ n ih =>
    intro s out h
    unfold Py.whileRet at h
    by_cases hc : cond s = true
    · rw [if_pos hc] at h
      cases hb : body s with
      | inl r =>
        rw [hb] at h
        cases h
        exact Runs.ret s r hc hb
      | inr s' =>
        rw [hb] at h
        exact Runs.step s s' out hc hb (ih s' out h)
    · rw [if_neg hc] at h
      cases h
      exact Runs.exit s (by simpa using hc)

/-- more fuel never changes an answer -/
theorem whileRet_mono (cond : σ → Bool) (body : σ → Sum ρ σ) :
    ∀ (fuel : Nat) (s : σ) (out : Sum ρ σ), Py.whileRet fuel cond body s = some out →
      ∀ extra, Py.whileRet (fuel + extra) cond body s = some out := by
  intro fuel
  induction fuel with
  | zero => intro s out h; simp [Py.whileRet] at h
  | succ n ih =>
    intro s out h extra
    have hf : n + 1 + extra = (n + extra) + 1 := by omega
    rw [hf]
    unfold Py.whileRet at h ⊢
    by_cases hc : cond s = true
    · rw [if_pos hc] at h ⊢
      cases hb : body s with
      | inl r => rw [hb] at h; simpa using h
      | inr s' => rw [hb] at h; simpa using ih s' out h extra
    · rw [if_neg hc] at h ⊢
      exact h

theorem whileRet_complete (cond : σ → Bool) (body : σ → Sum ρ σ) (s : σ) (out : Sum ρ σ)
    (h : Runs cond body s out) : ∃ fuel, Py.whileRet fuel cond body s = some out := by
  induction h with
  | exit s hc => exact ⟨1, by simp [Py.whileRet, hc]⟩
  | ret s r hc hb => exact ⟨1, by simp [Py.whileRet, hc, hb]⟩
  | step s s' out hc hb _ ih =>
    obtain ⟨f, hf⟩ := ih
    exact ⟨f + 1, by simp [Py.whileRet, hc, hb, hf]⟩

/-- determinism: the loop does at most one thing -/
theorem runs_deterministic (cond : σ → Bool) (body : σ → Sum ρ σ) (s : σ) (o1 o2 : Sum ρ σ)
    (h1 : Runs cond body s o1) (h2 : Runs cond body s o2) : o1 = o2 := by
  obtain ⟨f1, e1⟩ := whileRet_complete cond body s o1 h1
  obtain ⟨f2, e2⟩ := whileRet_complete cond body s o2 h2
  have a := whileRet_mono cond body f1 s o1 e1 f2
  have b := whileRet_mono cond body f2 s o2 e2 f1
  rw [Nat.add_comm] at b
  rw [a] at b
  exact Option.some.inj b

/-- `whileRet` decides the loop: an answer with some fuel is THE execution; no answer with any fuel means the loop diverges -/
theorem whileRet_iff (cond : σ → Bool) (body : σ → Sum ρ σ) (s : σ) (out : Sum ρ σ) :
    Runs cond body s out ↔ ∃ fuel, Py.whileRet fuel cond body s = some out :=
  ⟨whileRet_complete cond body s out, fun ⟨f, h⟩ => whileRet_sound cond body f s out h⟩
end
end FastTicc.PyWhile
