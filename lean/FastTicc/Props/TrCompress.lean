/-
TRANSLATED CODE = MODEL (matrix_compression.py: compress_matrix, reinflate_matrix and their helpers, property C11).
`Generated/Kernels.lean` is rewritten from the Python AST of `$REPO/src/fast_ticc` by `harness/py2lean.py` on every run; the
theorems below are about those generated definitions.  `np.triu_indices`, fancy indexing with two index lists, `.T`,
`.diagonal()`, `np.diag` are primitives of `Model/Py.lean`; `_full_matrix_size` (a floating-point square root) is MODELLED by
the integer square root (`Py.fullMatrixSize`), not translated.
-/
import FastTicc.Generated.Kernels
import FastTicc.Proofs.Translated
import FastTicc.Model.Index
import FastTicc.Props.C11
open FastTicc FastTicc.PyLemmas FastTicc.Index

namespace FastTicc.Translated
section
variable {α : Type} [Zero α] [Add α] [Sub α] [LT α] [DecidableLT α]

/-- a vector as the translated code sees a Python list (reads past the end give 0, as the model's `getD`) -/
def vecOf (l : List α) : Py.Arr1 α := ⟨l.length, fun k => l.getD k 0⟩

omit [Zero α] [Add α] [Sub α] [LT α] [DecidableLT α] in
theorem upper_triangle_indices_eq (n : Nat) :
    Gen._upper_triangle_indices (n : Int)
      = ((triuIdx n).map (fun p => (p.1 : Int)), (triuIdx n).map (fun p => (p.2 : Int))) := by
  unfold Gen._upper_triangle_indices Py.triuIndices triuIdx rowIdx
  simp

omit [Zero α] [Add α] [Sub α] [LT α] [DecidableLT α] in
/-- **the translated `compress_matrix` is the model's `compress`** (square matrices; a non-square one raises) -/
theorem compress_matrix_eq (M : Py.Arr2 α) (n : Nat) (hr : M.rows = n) (hc : M.cols = n) :
    ∃ v, Gen.compress_matrix M = .ok v ∧ v.toList = Index.compress M.get n := by
  refine ⟨Py.Arr2.getAt2 M (Gen._upper_triangle_indices (n : Int)), ?_, ?_⟩
  · unfold Gen.compress_matrix
    rw [if_neg (by simp [Py.Arr2.shape0, Py.Arr2.shape1, hr, hc]), Py.Arr2.shape0, hr]
    rfl
  · rw [upper_triangle_indices_eq]
    unfold Py.Arr2.getAt2 Py.Arr1.toList Index.compress
    dsimp only
    rw [List.length_map]
    refine List.ext_getElem (by rw [List.length_map, List.length_range, List.length_map]) fun k _ h1 => ?_
    rw [List.length_map] at h1
    -- entry `k` of an index list is the cast of a coordinate of `(triuIdx n)[k]`
    have hget : ∀ f : Nat × Nat → Int, ((triuIdx n).map f).getD k 0 = f (triuIdx n)[k] := fun f => by
      rw [getD_eq_getElem _ _ (by rw [List.length_map]; exact h1), List.getElem_map]
    rw [List.getElem_map, List.getElem_map, List.getElem_range, hget, hget, idx_nat, idx_nat]


omit [Zero α] [Add α] [Sub α] [LT α] [DecidableLT α] in
theorem findIdx_pairs (n : Nat) (ps : List (Nat × Nat)) (r c : Nat) :
    ((ps.map (fun p => (p.1 : Int))).zip (ps.map (fun p => (p.2 : Int)))).findIdx?
        (fun p => Py.idx n p.1 == r && Py.idx n p.2 == c)
      = ps.findIdx? (fun p => p.1 == r && p.2 == c) := by
  rw [List.zip_map]
  induction ps with
  | nil => rfl
  | cons p t ih =>
    simp only [List.zip_cons_cons, List.map_cons, List.findIdx?_cons, Prod.map, idx_nat]
    rw [ih]

omit [Add α] [Sub α] [LT α] [DecidableLT α] in
theorem fullMatrixSize_eq (m : Nat) : Py.fullMatrixSize (m : Int) = ((Index.fullSize m : Nat) : Int) := by
  unfold Py.fullMatrixSize Index.fullSize
  simp

omit [LT α] [DecidableLT α] in
/-- **the translated `reinflate_matrix` is the model's `reinflate`**, entry by entry, for every vector -/
theorem reinflate_matrix_eq (vs : List α) :
    (Gen.reinflate_matrix (vecOf vs)).rows = Index.fullSize vs.length ∧
    (Gen.reinflate_matrix (vecOf vs)).cols = Index.fullSize vs.length ∧
    ∀ r c, (Gen.reinflate_matrix (vecOf vs)).get r c = Index.reinflate vs r c := by
  unfold Gen.reinflate_matrix Gen._upper_to_full Gen._uncompress_upper_triangle
  have hsz : Py.Arr1.size (vecOf vs) = ((vs.length : Nat) : Int) := rfl
  simp only [hsz, fullMatrixSize_eq, upper_triangle_indices_eq]
  refine ⟨Int.toNat_natCast _, Int.toNat_natCast _, fun r c => ?_⟩
  simp only [Py.Arr2.sub, Py.Arr2.add, Py.Arr2.transpose, Py.diagOf, Py.Arr2.diagonal, Py.Arr2.setAt2, Py.Arr2.const,
    Int.toNat_natCast, findIdx_pairs, Index.reinflate, Index.upperToFull, Index.uncompressUpper, Index.posOf, vecOf]
  rfl

end

section
variable {α : Type} [AddCommGroup α] [LT α] [DecidableLT α]

/-- **C11's round trip about the translated code**: re-inflating any vector of length `n(n+1)/2` with the translated
`reinflate_matrix` and compressing the result with the translated `compress_matrix` returns the vector. -/
theorem translated_compress_reinflate (n : Nat) (vs : List α) (hv : vs.length = n * (n + 1) / 2) :
    ∃ w, Gen.compress_matrix (Gen.reinflate_matrix (vecOf vs)) = .ok w ∧ w.toList = vs := by
  obtain ⟨h1, h2, h3⟩ := reinflate_matrix_eq vs
  have hn : Index.fullSize vs.length = n := by rw [hv]; exact Index.fullSize_tri n
  obtain ⟨w, hw1, hw2⟩ := compress_matrix_eq (Gen.reinflate_matrix (vecOf vs)) n (by rw [h1, hn]) (by rw [h2, hn])
  refine ⟨w, hw1, ?_⟩
  rw [hw2]
  have : (Gen.reinflate_matrix (vecOf vs)).get = Index.reinflate vs := by
    funext r c; exact h3 r c
  rw [this]
  exact Index.compress_reinflate n vs hv

/-- and the other way round: compressing a symmetric `n × n` matrix with the translated `compress_matrix` and
re-inflating the result with the translated `reinflate_matrix` returns the matrix. -/
theorem translated_reinflate_compress (M : Py.Arr2 α) (n : Nat) (hr : M.rows = n) (hc : M.cols = n)
    (hsym : ∀ r c, M.get r c = M.get c r) :
    ∃ w, Gen.compress_matrix M = .ok w ∧
      ∀ r c, r < n → c < n → (Gen.reinflate_matrix (vecOf w.toList)).get r c = M.get r c := by
  obtain ⟨w, hw1, hw2⟩ := compress_matrix_eq M n hr hc
  refine ⟨w, hw1, ?_⟩
  intro r c hrn hcn
  rw [(reinflate_matrix_eq w.toList).2.2 r c, hw2]
  exact Index.reinflate_compress n M.get hsym r c hrn hcn

end
end FastTicc.Translated
