/-
Property C08 (continued) — "raises a clear error because no cluster holds at least 2m points":
for `m ≥ 2`, at the moment repopulation raises, no cluster of the working labelling holds `2m`
points or more.  (For `m = 1` a refilled singleton reaches `2 = 2m`; see DESIGN 0.2(3).)
-/
import FastTicc.Props.C08

namespace FastTicc.Repop

section
variable {α : Type} [LT α] [DecidableLT α]
variable (K m : Nat) (spread : Nat → α) (pick : Nat → Nat → List Nat) (order labels : List Nat)

/-- `refillTrace` is `refill` plus the working labelling at the stop. -/
theorem refillTrace_agrees (rem : List Nat) (s : Nat) :
    ((refillTrace m pick order rem labels s).2 = true →
        refill m pick order rem labels s = some (refillTrace m pick order rem labels s).1) ∧
    ((refillTrace m pick order rem labels s).2 = false → refill m pick order rem labels s = none) := by
  rw [refill_eq_trace]
  exact ⟨fun h => if_pos h, fun h => by rw [h]; rfl⟩

-- the proof does not need `hK`
set_option linter.unusedVariables false in
/-- for `m ≥ 2`: when the error is raised, every cluster of the working labelling has fewer than
`2m` points — the error message ("unable to find a donor cluster with at least 2m points") is true
of the state it is raised in. -/
theorem repop_error_no_donor_left (hm : 2 ≤ m) (hK : AllBelow K labels) (hp : ValidPick m pick)
    (ho : order.Perm (needy K labels))
    (herr : (refillTrace m pick order (rankedDonors spread K m labels) labels 0).2 = false) :
    ∀ k, k < K →
      size (refillTrace m pick order (rankedDonors spread K m labels) labels 0).1 k < 2 * m := by
  have hm1 : 1 ≤ m := by omega
  intro k hk
  refine refillTrace_no_donor_left hm1 hp (inv_init spread hm1 ho) 0 hm ?_ herr ?_
  · intro e he
    exact ((mem_needy K labels e).mp (ho.mem_iff.mp he)).2
  · intro hkr
    apply Nat.lt_of_not_le
    intro hle
    exact hkr ((mem_rankedDonors spread K m labels k).mpr ⟨hk, hle⟩)

/-- the `m = 1` exception, concretely: the error is raised although a (refilled) cluster holds `2m`. -/
theorem repop_error_m1_exception :
    ∃ (K : Nat) (labels order : List Nat) (pick : Nat → Nat → List Nat),
      order.Perm (needy K labels) ∧ ValidPick 1 pick ∧
      (refillTrace 1 pick order (rankedDonors (fun _ => (0 : Int)) K 1 labels) labels 0).2 = false ∧
      ∃ k, k < K ∧ 2 * 1 ≤ size (refillTrace 1 pick order (rankedDonors (fun _ => (0 : Int)) K 1 labels) labels 0).1 k := by
  -- sizes [1, 0, 2]: cluster 2 is the only donor (capacity 1); after cluster 0 is refilled to
  -- 2 = 2m points the donor is retired and cluster 1 finds nobody.
  refine ⟨3, [0, 2, 2], [0, 1], fun _ _ => [0], by decide, ?_, ?_⟩
  · intro s n hn
    refine ⟨rfl, List.pairwise_singleton _ _, ?_⟩
    intro x hx
    rw [List.mem_singleton] at hx
    omega
  · have h2 : rankedDonors (fun _ => (0 : Int)) 3 1 [0, 2, 2] = [2] := by decide
    have f1 : findDonor (size [0, 2, 2]) 1 [2] = some (2, []) := by
      rw [findDonor_cons]; decide
    have e1 : movePoints [0, 2, 2] 2 0 [0] = [0, 0, 2] := by decide
    have ht : refillTrace 1 (fun _ _ => [0]) [0, 1] [2] [0, 2, 2] 0 = ([0, 0, 2], false) := by
      rw [refillTrace, f1]
      simp only [e1]
      rw [refillTrace, findDonor_nil]
    rw [h2, ht]
    exact ⟨rfl, 0, by decide, by decide⟩
end

end FastTicc.Repop
