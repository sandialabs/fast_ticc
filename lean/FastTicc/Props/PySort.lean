/-
The primitive `Py.sortedDescBy` - the translator's reading of Python's `sorted(l, key=..., reverse=True)` - meets the
specification of a STABLE descending sort: the result is a permutation of the input, its keys never increase, and the
elements sharing a key keep the order they had in the input (Python's sort is stable and `reverse=True` preserves that).
This removes the primitive from the "trusted reading" part of the translator's trusted base as far as its Lean side goes;
that CPython's `sorted` meets the same specification is what the executed comparisons of C08 check on every run.
The three clauses are proved in `Proofs/Sort.lean`, where the model's own ranking (`Repop.rankedDonors`) reads them too.
-/
import FastTicc.Proofs.Sort
open FastTicc

namespace FastTicc.PySort
section
variable {β γ : Type} [LinearOrder β]

/-- the three clauses together determine the result: `sortedDescBy` IS the stable descending sort -/
theorem sortedDescBy_spec (key : γ → β) (l : List γ) :
    (Py.sortedDescBy key l).Perm l ∧ (Py.sortedDescBy key l).Pairwise (fun a b => key b ≤ key a) ∧
    ∀ k, (Py.sortedDescBy key l).filter (fun y => decide (key y = k)) = l.filter (fun y => decide (key y = k)) :=
  ⟨sortedDescBy_perm key l, sortedDescBy_sorted key l, fun k => sortedDescBy_stable key k l⟩

example : Py.sortedDescBy (fun (p : Nat × Nat) => p.1) [(1, 0), (3, 1), (1, 2), (3, 3), (2, 4)]
    = [(3, 1), (3, 3), (2, 4), (1, 0), (1, 2)] := by decide
end
end FastTicc.PySort
