/-
TRANSLATED CODE = MODEL (`_find_ranked_donor_cluster_ids` of cluster_maintenance.py, property C08).  `Generated/Kernels.lean`
is rewritten from the Python AST of `$REPO/src/fast_ticc` by `harness/py2lean.py` on every run; the theorem below is about
that generated definition.  `model` is the record of what the function reads of a model state (minimum cluster size, and of
every cluster its size and computed covariance); `np.linalg.norm` is a function parameter (`normOf`); the local key function
is inlined; `sorted(ids, key=..., reverse=True)` is the primitive `Py.sortedDescBy` (decreasing keys, equal keys in their
original order - Python's sort is stable and `reverse=True` keeps it so).
-/
import FastTicc.Generated.Kernels
import FastTicc.Proofs.Translated
import FastTicc.Proofs.Repop
open FastTicc FastTicc.PyLemmas

namespace FastTicc.Translated
section
variable {α : Type} [Zero α] [Add α] [Sub α] [Mul α] [Div α] [LT α] [DecidableLT α] [IntCast α]

omit [Add α] [Sub α] [Mul α] [Div α] [IntCast α] in
/-- **the translated `_find_ranked_donor_cluster_ids` is `Repop.rankedDonors`**: for every cluster count, minimum size,
labelling and family of covariances, on the model state whose cluster `k` has the size `labels` gives it and the covariance
`cov k`, the translated function returns the clusters with at least `2 m` points by decreasing spread `normOf (cov k)`, ties
in index order - the ranking every theorem of `Props/C08` is about. -/
theorem find_ranked_donor_cluster_ids_eq (normOf : Py.Arr2 α → α) (K m : Nat) (labels : List Nat) (cov : Nat → Py.Arr2 α) :
    Gen._find_ranked_donor_cluster_ids normOf
        ⟨(m : Int), (List.range K).map (fun (k : Nat) => ⟨((Repop.size labels k : Nat) : Int), cov k⟩)⟩
      = (Repop.rankedDonors (fun k => normOf (cov k)) K m labels).map (fun (k : Nat) => (k : Int)) := by
  unfold Gen._find_ranked_donor_cluster_ids
  simp only [List.map_id', Py.len, List.length_map, List.length_range, range_zero_one, List.filter_map]
  rw [Repop.rankedDonors_eq, PySort.sortedDescBy_map]
  · congr 2
    apply List.filter_congr
    intro k hk
    simp only [Function.comp, getItem_map_range _ K k (List.mem_range.mp hk)]
    -- the cast of `2 * m` computes to `2 * ↑m`
    exact decide_eq_decide.mpr (Int.ofNat_le (m := 2 * m))
  · intro k hk
    rw [List.map_map, getItemZ_map_range _ K k (List.mem_range.mp (List.mem_filter.mp hk).1)]
    rfl
end
end FastTicc.Translated
