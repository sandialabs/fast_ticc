/-
Property C11 — compressed-matrix and Toeplitz-class index maps are exact bijections.
The arithmetic and list-indexing lemmas these proofs rest on live in `FastTicc/Proofs/Index.lean`.
-/
import FastTicc.Model.Index
import FastTicc.Proofs.Index
import Mathlib.Algebra.Group.Defs

namespace FastTicc.Index

/-- number of entries in the compressed form. -/
theorem triuIdx_length (n : Nat) : (triuIdx n).length = n * (n + 1) / 2 := by
  show Aux.pre n n = _
  -- `pre_formula` at `r = n` is `2 * pre n n + n * n = 2 * (n * n) + n`
  have h : n * (n + 1) = 2 * Aux.pre n n :=
    Nat.add_right_cancel (m := n * n) (by rw [Aux.pre_formula n n (Nat.le_refl n)]; ring)
  exact (Nat.div_eq_of_eq_mul_right Nat.two_pos h).symm

/-- the closed-form compressed index of `(r,c)` is its row-major rank in the upper triangle. -/
theorem compressedIndex_eq_rank (n r c : Nat) (hrc : r ≤ c) (hc : c < n) :
    (triuIdx n)[compressedIndex r c n]? = some (r, c) := by
  rw [Aux.compressedIndex_eq n r c hrc hc]
  exact Aux.triuIdx_getElem? n r c hrc hc

/-- every entry of `triuIdx n` is an upper-triangle position, each exactly once. -/
theorem mem_triuIdx (n r c : Nat) : (r, c) ∈ triuIdx n ↔ r ≤ c ∧ c < n := by
  simp only [triuIdx, rowIdx, List.mem_flatMap, List.mem_map, List.mem_range, Prod.mk.injEq]
  constructor
  · rintro ⟨a, ha, k, hk, rfl, rfl⟩
    exact ⟨Nat.le_add_right a k, Nat.add_lt_of_lt_sub' hk⟩
  · rintro ⟨h1, h2⟩
    exact ⟨r, Nat.lt_of_le_of_lt h1 h2, c - r, Nat.sub_lt_sub_right h1 h2, rfl, Nat.add_sub_cancel' h1⟩

theorem triuIdx_nodup (n : Nat) : (triuIdx n).Nodup := by
  refine Aux.nodup_flatMap_of_tag Prod.fst _ _ List.nodup_range (fun r _ => ?_) (fun r _ p hp => ?_)
  · exact List.nodup_range.map (fun a b h => by simpa using h)
  · obtain ⟨k, _, rfl⟩ := List.mem_map.1 hp
    rfl

theorem compressedIndex_triuIdx (n k : Nat) (hk : k < (triuIdx n).length) :
    compressedIndex (triuIdx n)[k].1 (triuIdx n)[k].2 n = k := by
  obtain ⟨hrc, hc⟩ := (mem_triuIdx n (triuIdx n)[k].1 (triuIdx n)[k].2).1 (List.getElem_mem hk)
  have h := compressedIndex_eq_rank n _ _ hrc hc
  exact ((List.getElem?_inj hk (triuIdx_nodup n)).1
    ((List.getElem?_eq_getElem hk).trans h.symm)).symm

/-- the compressed index is the position `square[triu_indices] = v` writes to. -/
theorem posOf_eq_compressedIndex (n r c : Nat) (hrc : r ≤ c) (hc : c < n) :
    posOf n r c = some (compressedIndex r c n) := by
  have hget := compressedIndex_eq_rank n r c hrc hc
  unfold posOf
  rw [List.findIdx?_eq_some_iff_getElem]
  obtain ⟨hlt, hval⟩ := List.getElem?_eq_some_iff.1 hget
  refine ⟨hlt, by simp [hval], ?_⟩
  intro j hj hp
  have hjlt : j < (triuIdx n).length := Nat.lt_trans hj hlt
  have hj' : (triuIdx n)[j] = (r, c) := by
    simp only [Bool.and_eq_true, beq_iff_eq] at hp
    exact Prod.ext hp.1 hp.2
  exact absurd ((List.getElem_inj (triuIdx_nodup n)).1 (hj'.trans hval.symm)) (Nat.ne_of_lt hj)

/-- positions outside the upper triangle are never written. -/
theorem posOf_none (n r c : Nat) (h : c < r ∨ n ≤ c) : posOf n r c = none := by
  unfold posOf
  rw [List.findIdx?_eq_none_iff]
  rintro ⟨a, b⟩ hab
  rw [mem_triuIdx] at hab
  simp only [Bool.and_eq_false_iff, beq_eq_false_iff_ne, ne_eq]
  omega

/-- the real code rejects exactly `column < row`. -/
theorem compressedIndex?_isSome_iff (r c n : Nat) :
    (compressedIndex? r c n).isSome ↔ r ≤ c := by
  unfold compressedIndex?
  by_cases h : c < r
  · simp [h]
  · simp [h]
    exact Nat.le_of_not_lt h

/-- size inversion: `_full_matrix_size(n(n+1)/2) = n`. -/
theorem fullSize_tri (n : Nat) : fullSize (n * (n + 1) / 2) = n := by
  have e : 8 * (n * (n + 1) / 2) + 1 = (2 * n + 1) * (2 * n + 1) := by
    rw [show 8 = 4 * 2 from rfl, Nat.mul_assoc, Aux.two_mul_tri]
    ring
  unfold fullSize
  rw [e, Nat.sqrt_eq, Nat.add_sub_cancel, Nat.mul_div_cancel_left n Nat.two_pos]

section group
variable {α : Type}

theorem uncompressUpper_upper [Zero α] (v : List α) (n r c : Nat) (hrc : r ≤ c) (hc : c < n) :
    uncompressUpper v n r c = v.getD (compressedIndex r c n) 0 := by
  simp [uncompressUpper, posOf_eq_compressedIndex n r c hrc hc]

theorem uncompressUpper_lower [Zero α] (v : List α) (n r c : Nat) (h : c < r ∨ n ≤ c) :
    uncompressUpper v n r c = 0 := by
  simp [uncompressUpper, posOf_none n r c h]

theorem compress_length (M : Nat → Nat → α) (n : Nat) :
    (compress M n).length = n * (n + 1) / 2 := by
  simp [compress, triuIdx_length]

end group

section group
variable {α : Type} [AddCommGroup α]

/-- the re-inflated matrix is symmetric (the symmetry clause of C03, via
`OptPhase.reconstruct_symm`). -/
theorem reinflate_symm (v : List α) (r c : Nat) : reinflate v r c = reinflate v c r := by
  unfold reinflate upperToFull
  by_cases h : r = c
  · subst h; rfl
  · rw [if_neg h, if_neg (fun h' => h h'.symm), add_comm]

/-- the transposed summand is zero off the diagonal and is subtracted again on it. -/
theorem reinflate_upper (v : List α) (n r c : Nat) (hn : fullSize v.length = n) (hrc : r ≤ c)
    (hc : c < n) : reinflate v r c = v.getD (compressedIndex r c n) 0 := by
  unfold reinflate upperToFull
  rw [hn]
  by_cases h : r = c
  · subst h
    rw [if_pos rfl, uncompressUpper_upper v n r r hrc hc, add_sub_cancel_right]
  · rw [if_neg h, uncompressUpper_upper v n r c hrc hc,
      uncompressUpper_lower v n c r (Or.inl (Nat.lt_of_le_of_ne hrc h)), add_zero, sub_zero]

/-- re-inflating any vector of length `n(n+1)/2` and compressing it returns the vector. -/
theorem compress_reinflate (n : Nat) (v : List α) (hv : v.length = n * (n + 1) / 2) :
    compress (reinflate v) n = v := by
  have hn : fullSize v.length = n := by rw [hv, fullSize_tri]
  apply List.ext_getElem
  · rw [compress_length, hv]
  · intro k h1 h2
    have hk : k < (triuIdx n).length := by rw [triuIdx_length, ← hv]; exact h2
    obtain ⟨hrc, hc⟩ := (mem_triuIdx n (triuIdx n)[k].1 (triuIdx n)[k].2).1 (List.getElem_mem hk)
    simp only [compress, List.getElem_map]
    rw [reinflate_upper v n _ _ hn hrc hc, compressedIndex_triuIdx n k hk,
      List.getD_eq_getElem?_getD, List.getElem?_eq_getElem h2, Option.getD_some]

/-- compressing a symmetric matrix and re-inflating returns the matrix. -/
theorem reinflate_compress (n : Nat) (M : Nat → Nat → α)
    (hsym : ∀ r c, M r c = M c r) (r c : Nat) (hr : r < n) (hc : c < n) :
    reinflate (compress M n) r c = M r c := by
  have hn : fullSize (compress M n).length = n := by rw [compress_length, fullSize_tri]
  have hU : ∀ r c, r ≤ c → c < n → reinflate (compress M n) r c = M r c := by
    intro r c hrc hc
    rw [reinflate_upper _ n r c hn hrc hc, List.getD_eq_getElem?_getD, compress,
      List.getElem?_map, compressedIndex_eq_rank n r c hrc hc]
    rfl
  rcases Nat.le_total r c with h | h
  · exact hU r c h hc
  · rw [reinflate_symm, hU c r h hr, hsym]
end group

/-- each class holds exactly `W - b` positions. -/
theorem class_size (b r c N W : Nat) : (positions b r c N W).length = W - b := by
  simp [positions, blockStarts]

/-- all positions of a class of the Z-update lie in the upper triangle of the `NW × NW` matrix. -/
theorem positions_upper (b r c N W : Nat) (hb : b < W) (hr : r < N) (hc : c < N)
    (h0 : b = 0 → r ≤ c) : ∀ p ∈ positions b r c N W, p.1 ≤ p.2 ∧ p.2 < N * W := by
  rintro ⟨R, C⟩ hp
  obtain ⟨i, hi, rfl, rfl⟩ := (Aux.mem_positions b r c N W R C).1 hp
  constructor
  · show i * N + r ≤ b * N + i * N + c
    -- off the diagonal block, `b * N ≥ N` alone exceeds `r`
    have hrc : r ≤ b * N + c := by
      cases b with
      | zero => rw [Nat.zero_mul, Nat.zero_add]; exact h0 rfl
      | succ b' =>
        exact Nat.le_trans hr.le (Nat.le_trans (Nat.le_mul_of_pos_left N (Nat.succ_pos b')) (Nat.le_add_right _ c))
    rw [Nat.add_right_comm, Nat.add_comm (i * N)]
    exact Nat.add_le_add_right hrc _
  · calc b * N + i * N + c < (b + i + 1) * N := by
          rw [Nat.add_mul, Nat.add_mul, Nat.one_mul]; exact Nat.add_lt_add_left hc _
      _ ≤ W * N := Nat.mul_le_mul_right N (Nat.succ_le_of_lt (Nat.add_lt_of_lt_sub' hi))
      _ = N * W := Nat.mul_comm W N

/-- all positions of a class are the same block-relative entry: block offset `b`,
in-block row `r`, in-block column `c` (so they are equal under block-Toeplitz structure). -/
theorem class_toeplitz_equal (b r c N W : Nat) (hr : r < N) (hc : c < N) :
    ∀ p ∈ positions b r c N W,
      p.1 % N = r ∧ p.2 % N = c ∧ p.2 / N = p.1 / N + b := by
  rintro ⟨R, C⟩ hp
  obtain ⟨i, _, rfl, rfl⟩ := (Aux.mem_positions b r c N W R C).1 hp
  have hN : 0 < N := Nat.zero_lt_of_lt hr
  obtain ⟨h1, h2⟩ := (Nat.div_mod_unique hN).2 ⟨(by ring : r + N * i = i * N + r), hr⟩
  obtain ⟨h3, h4⟩ :=
    (Nat.div_mod_unique hN).2 ⟨(by ring : c + N * (i + b) = b * N + i * N + c), hc⟩
  exact ⟨h2, h4, by rw [h3, h1]⟩

theorem class_of_position {N W : Nat} {k : Nat × Nat × Nat} (hk : k ∈ classes N W) {p : Nat × Nat}
    (hp : p ∈ positions k.1 k.2.1 k.2.2 N W) : (p.2 / N - p.1 / N, p.1 % N, p.2 % N) = k := by
  obtain ⟨b, r, c⟩ := k
  obtain ⟨_, hr, hc, _⟩ := (Aux.mem_classes N W b r c).1 hk
  obtain ⟨h1, h2, h3⟩ := class_toeplitz_equal b r c N W hr hc p hp
  rw [h1, h2, h3, Nat.add_sub_cancel_left]

/-- membership characterisation: `(R,C)` belongs to class `(b,r,c)` iff those are its
block offset and in-block coordinates. -/
theorem mem_positions_iff (b r c N W R C : Nat) (hN : 0 < N) (hr : r < N) (hc : c < N)
    (hC : C < N * W) :
    (R, C) ∈ positions b r c N W ↔ (R % N = r ∧ C % N = c ∧ C / N = R / N + b) := by
  have _ := hN
  constructor
  · exact class_toeplitz_equal b r c N W hr hc (R, C)
  · rintro ⟨h1, h2, h3⟩
    have hq : C / N < W := Nat.div_lt_of_lt_mul hC
    refine (Aux.mem_positions b r c N W R C).2 ⟨R / N, Nat.lt_sub_of_add_lt (h3 ▸ hq), ?_, ?_⟩
    · rw [← h1, Nat.mul_comm]
      exact Nat.div_add_mod R N
    · rw [← h2, ← Nat.add_mul, Nat.add_comm b, ← h3, Nat.mul_comm]
      exact Nat.div_add_mod C N

/-- cover and disjointness: every upper-triangle position lies in exactly one class. -/
theorem class_partition (N W R C : Nat) (hN : 0 < N) (hRC : R ≤ C) (hC : C < N * W) :
    ∃ k, k ∈ classes N W ∧ (R, C) ∈ positions k.1 k.2.1 k.2.2 N W ∧
      ∀ k', k' ∈ classes N W → (R, C) ∈ positions k'.1 k'.2.1 k'.2.2 N W → k' = k := by
  have hdiv : R / N ≤ C / N := Nat.div_le_div_right hRC
  have hrN : R % N < N := Nat.mod_lt _ hN
  have hcN : C % N < N := Nat.mod_lt _ hN
  refine ⟨(C / N - R / N, R % N, C % N), ?_, ?_, ?_⟩
  · refine (Aux.mem_classes N W _ _ _).2
      ⟨Nat.lt_of_le_of_lt (Nat.sub_le _ _) (Nat.div_lt_of_lt_mul hC), hrN, hcN, fun h0 => ?_⟩
    -- same block row: `R` and `C` differ by their in-block parts only
    have e : C / N = R / N := Nat.le_antisymm (Nat.sub_eq_zero_iff_le.1 h0) hdiv
    have eR := Nat.div_add_mod R N
    have eC := Nat.div_add_mod C N
    rw [e] at eC
    exact Nat.le_of_add_le_add_left (a := N * (R / N)) (by rw [eR, eC]; exact hRC)
  · exact (mem_positions_iff _ _ _ N W R C hN hrN hcN hC).2 ⟨rfl, rfl, (Nat.add_sub_cancel' hdiv).symm⟩
  · exact fun k' hk hp => (class_of_position hk hp).symm

theorem classes_nodup (N W : Nat) : (classes N W).Nodup := by
  refine Aux.nodup_flatMap_of_tag Prod.fst _ _ List.nodup_range (fun b _ => ?_) (fun b _ p hp => ?_)
  · refine Aux.nodup_flatMap_of_tag (·.2.1) _ _ List.nodup_range (fun r _ => ?_)
      (fun r _ p hp => ?_)
    · exact (List.nodup_range.filter _).map (fun a a' h => by simpa using h)
    · obtain ⟨c, _, rfl⟩ := List.mem_map.1 hp
      rfl
  · obtain ⟨r, _, hp⟩ := List.mem_flatMap.1 hp
    obtain ⟨c, _, rfl⟩ := List.mem_map.1 hp
    rfl

theorem positions_nodup (b r c N W : Nat) (hN : 0 < N) : (positions b r c N W).Nodup := by
  simp only [positions, blockStarts, List.map_map]
  refine List.nodup_range.map ?_
  intro i j h
  simp only [Function.comp, Prod.mk.injEq, Nat.zero_add] at h
  exact Nat.eq_of_mul_eq_mul_right hN (Nat.add_right_cancel h.1)

/-- the compressed and (row, column) forms of each list name the same positions. -/
theorem locCompressed_eq_map (b r c N W : Nat) :
    locCompressed b r c N W
      = List.zipWith (fun R C => compressedIndex R C (N * W))
          (locSlices b r c N W).1 (locSlices b r c N W).2 := by
  unfold locCompressed locSlices
  rw [List.zipWith_map, List.zipWith_self]

theorem locSlices_eq_unzip (b r c N W : Nat) :
    locSlices b r c N W = (positions b r c N W).unzip := by
  rw [List.unzip_eq_map]
  rfl

theorem locCompressed_rank (N W : Nat) (k : Nat × Nat × Nat) (hk : k ∈ classes N W) (i : Nat)
    (hi : i ∈ locCompressed k.1 k.2.1 k.2.2 N W) :
    ∃ p ∈ positions k.1 k.2.1 k.2.2 N W, p.1 ≤ p.2 ∧ p.2 < N * W ∧
      (triuIdx (N * W))[i]? = some p := by
  obtain ⟨b, r, c⟩ := k
  obtain ⟨hb, hr, hc, h0⟩ := (Aux.mem_classes N W b r c).1 hk
  obtain ⟨p, hp, rfl⟩ := List.mem_map.1 hi
  obtain ⟨h1, h2⟩ := positions_upper b r c N W hb hr hc h0 p hp
  exact ⟨p, hp, h1, h2, compressedIndex_eq_rank (N * W) p.1 p.2 h1 h2⟩

theorem locCompressed_lt (N W : Nat) (k : Nat × Nat × Nat) (hk : k ∈ classes N W) (i : Nat)
    (hi : i ∈ locCompressed k.1 k.2.1 k.2.2 N W) : i < (N * W) * (N * W + 1) / 2 := by
  obtain ⟨p, _, _, _, hget⟩ := locCompressed_rank N W k hk i hi
  rw [← triuIdx_length]
  exact (List.getElem?_eq_some_iff.1 hget).1

/-- an index determines its position, a position its class. -/
theorem locCompressed_unique (N W : Nat) (k k' : Nat × Nat × Nat)
    (hk : k ∈ classes N W) (hk' : k' ∈ classes N W) (i : Nat)
    (hi : i ∈ locCompressed k.1 k.2.1 k.2.2 N W) (hi' : i ∈ locCompressed k'.1 k'.2.1 k'.2.2 N W) :
    k' = k := by
  obtain ⟨p, hp, _, _, hget⟩ := locCompressed_rank N W k hk i hi
  obtain ⟨p', hp', _, _, hget'⟩ := locCompressed_rank N W k' hk' i hi'
  obtain rfl : p = p' := Option.some.inj (hget.symm.trans hget')
  exact (class_of_position hk' hp').symm.trans (class_of_position hk hp)

/-- each position determines its class (`class_of_position`), so the classes are disjoint. -/
theorem allPositions_perm (N W : Nat) (hN : 0 < N) :
    ((classes N W).flatMap (fun k => positions k.1 k.2.1 k.2.2 N W)).Perm (triuIdx (N * W)) := by
  have hnd : ((classes N W).flatMap (fun k => positions k.1 k.2.1 k.2.2 N W)).Nodup :=
    Aux.nodup_flatMap_of_tag (fun p => (p.2 / N - p.1 / N, p.1 % N, p.2 % N)) _ _
      (classes_nodup N W) (fun k _ => positions_nodup _ _ _ _ _ hN)
      (fun k hk p hp => class_of_position hk hp)
  rw [List.perm_ext_iff_of_nodup hnd (triuIdx_nodup _)]
  rintro ⟨R, C⟩
  rw [mem_triuIdx, List.mem_flatMap]
  constructor
  · rintro ⟨⟨b, r, c⟩, hk, hp⟩
    rw [Aux.mem_classes] at hk
    exact positions_upper b r c N W hk.1 hk.2.1 hk.2.2.1 hk.2.2.2 (R, C) hp
  · rintro ⟨h1, h2⟩
    obtain ⟨k, hk, hp, _⟩ := class_partition N W R C hN h1 h2
    exact ⟨k, hk, hp⟩

/-- the class sizes add up to the size of the compressed triangle. -/
theorem class_sizes_sum (N W : Nat) :
    ((classes N W).map (fun k => (positions k.1 k.2.1 k.2.2 N W).length)).sum
      = (N * W) * (N * W + 1) / 2 := by
  rcases Nat.eq_zero_or_pos N with rfl | hN
  · have h0 : classes 0 W = [] := by
      rw [List.eq_nil_iff_forall_not_mem]
      rintro ⟨b, r, c⟩ h
      rw [Aux.mem_classes] at h
      exact absurd h.2.1 (Nat.not_lt_zero r)
    simp [h0]
  · rw [← triuIdx_length (N * W), ← (allPositions_perm N W hN).length_eq, List.length_flatMap]

/-- the real code's argument checks. -/
theorem blockStarts?_isSome_iff (b N W : Nat) :
    (blockStarts? b N W).isSome ↔ (b < W ∧ 0 < N) := by
  unfold blockStarts?
  by_cases h1 : b ≥ W
  · simp [h1]
  · by_cases h2 : N = 0
    · simp [h1, h2]
    · by_cases h3 : W = 0
      · exact absurd (h3 ▸ Nat.zero_le b) h1
      · simp [h1, h2, h3]
        exact ⟨Nat.lt_of_not_le h1, Nat.pos_of_ne_zero h2⟩

/-- non-vacuity / sanity on a concrete shape. -/
example : classes 2 2 = [(0,0,0),(0,0,1),(0,1,1),(1,0,0),(1,0,1),(1,1,0),(1,1,1)] ∧
    positions 1 1 0 2 3 = [(1,2),(3,4)] ∧ locCompressed 1 1 0 2 3 = [7, 16] := by
  decide

/-! The same statements under their older names in `Index.Aux` (the checks audit both). -/

namespace Aux

theorem compressedIndex_eq_rank (n r c : Nat) (hrc : r ≤ c) (hc : c < n) :
    (triuIdx n)[compressedIndex r c n]? = some (r, c) :=
  Index.compressedIndex_eq_rank n r c hrc hc

theorem fullSize_tri (n : Nat) : fullSize (n * (n + 1) / 2) = n :=
  Index.fullSize_tri n

section group
variable {α : Type}
variable [AddCommGroup α]

theorem compress_reinflate (n : Nat) (v : List α) (hv : v.length = n * (n + 1) / 2) :
    compress (reinflate v) n = v :=
  Index.compress_reinflate n v hv

theorem reinflate_compress (n : Nat) (M : Nat → Nat → α)
    (hsym : ∀ r c, M r c = M c r) (r c : Nat) (hr : r < n) (hc : c < n) :
    reinflate (compress M n) r c = M r c :=
  Index.reinflate_compress n M hsym r c hr hc

theorem reinflate_symm (v : List α) (r c : Nat) : reinflate v r c = reinflate v c r :=
  Index.reinflate_symm v r c

end group

theorem class_size (b r c N W : Nat) : (positions b r c N W).length = W - b :=
  Index.class_size b r c N W

theorem positions_upper (b r c N W : Nat) (hb : b < W) (hr : r < N) (hc : c < N)
    (h0 : b = 0 → r ≤ c) : ∀ p ∈ positions b r c N W, p.1 ≤ p.2 ∧ p.2 < N * W :=
  Index.positions_upper b r c N W hb hr hc h0

theorem class_toeplitz_equal (b r c N W : Nat) (hr : r < N) (hc : c < N) :
    ∀ p ∈ positions b r c N W,
      p.1 % N = r ∧ p.2 % N = c ∧ p.2 / N = p.1 / N + b :=
  Index.class_toeplitz_equal b r c N W hr hc

theorem locCompressed_eq_map (b r c N W : Nat) :
    locCompressed b r c N W
      = List.zipWith (fun R C => compressedIndex R C (N * W))
          (locSlices b r c N W).1 (locSlices b r c N W).2 :=
  Index.locCompressed_eq_map b r c N W

theorem locSlices_eq_unzip (b r c N W : Nat) :
    locSlices b r c N W = (positions b r c N W).unzip :=
  Index.locSlices_eq_unzip b r c N W

theorem class_sizes_sum (N W : Nat) :
    ((classes N W).map (fun k => (positions k.1 k.2.1 k.2.2 N W).length)).sum
      = (N * W) * (N * W + 1) / 2 :=
  Index.class_sizes_sum N W

end Aux

end FastTicc.Index
