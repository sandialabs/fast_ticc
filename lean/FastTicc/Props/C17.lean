/-
Property C17 — the Calinski-Harabasz index matches its definition.
Property theorems and the definitions they are stated with; helper lemmas live in `FastTicc/Proofs/Stats.lean`.
The pinned code centres on the scalar mean of all entries (`chPinned`); the definition centres
on the per-column centroid (`chSpec`).  The exact deviation is proved (`between_decomposition`).
-/
import FastTicc.Model.Numeric
import FastTicc.Proofs.Stats
import Mathlib.Algebra.Order.Field.Basic
import Mathlib.Algebra.BigOperators.Ring.Finset
import Mathlib.Algebra.BigOperators.Group.Finset.Sigma

namespace FastTicc.Numeric

variable {α : Type} [Field α] [LinearOrder α] [IsStrictOrderedRing α]

-- the order structure is part of the stated context but several identities hold in any field
set_option linter.unusedSectionVars false

/-- the matrix-accumulating code (trace of a sum of weighted outer products) equals the
sum-of-squares form: `tr(Σ_k w_k v_k v_kᵀ) = Σ_k w_k ‖v_k‖²`. -/
theorem traceOuterSum_eq (K d : ℕ) (w : ℕ → α) (v : ℕ → ℕ → α) :
    traceOuterSum K d w v = sumTo K (fun k => w k * sumTo d (fun j => v k j * v k j)) := by
  unfold traceOuterSum
  simp only [sumTo_eq_sum]
  rw [Finset.sum_comm]
  exact Finset.sum_congr rfl (fun k _ => (Finset.mul_sum _ _ _).symm)

/-- hypotheses under which cluster means and sizes describe a partition of the `T` points:
sizes add up to `T`, and the size-weighted mean of the cluster means is the centroid. -/
structure Consistent (T K d : ℕ) (sizes : ℕ → ℕ) (means : ℕ → ℕ → α) (data : ℕ → ℕ → α) : Prop where
  total : sumTo K (fun k => ((sizes k : ℕ) : α)) = (T : α)
  centroid : ∀ j, sumTo K (fun k => (sizes k : α) * means k j) = (T : α) * centroid T data j

/-- exact deviation of the pinned centre: `B_pinned = B_spec + T·‖c − g·𝟙‖²`
(because `Σ_k n_k (μ_k − c) = 0`). -/
theorem between_decomposition (T K d : ℕ) (sizes : ℕ → ℕ) (means : ℕ → ℕ → α) (data : ℕ → ℕ → α)
    (h : Consistent T K d sizes means data) (g : α) :
    between K d sizes means (fun _ => g) =
      between K d sizes means (centroid T data) + (T : α) * sqDist d (centroid T data) (fun _ => g) := by
  have hT := h.total
  have hc := h.centroid
  simp only [sumTo_eq_sum] at hT hc
  unfold between sqDist
  simp only [sumTo_eq_sum, Finset.mul_sum]
  rw [Finset.sum_comm, Finset.sum_comm (s := Finset.range K), ← Finset.sum_add_distrib]
  exact Finset.sum_congr rfl (fun j _ => column_decomposition K _ _ _ _ g hT (hc j))

/-- the definition's value does not change when a constant is added to any sensor (column). -/
theorem chSpec_translation_invariant (T K d : ℕ) (hT : 0 < T) (members : ℕ → List ℕ)
    (means : ℕ → ℕ → α) (data : ℕ → ℕ → α) (t : ℕ → α) :
    chSpec T K d members (fun k j => means k j + t j) (fun i j => data i j + t j)
      = chSpec T K d members means data := by
  unfold chSpec between within
  simp only [centroid_translate T hT, sqDist_translate]

/-- the scalar-centred value is the definition's value plus `((T−K)/(K−1)) · T‖c − g𝟙‖² / Wd`
(with the `x / 0 = 0` convention on both sides, so nothing is asked of `Wd`). -/
theorem chPinned_eq_chSpec_add (T K d : ℕ) (members : ℕ → List ℕ) (means : ℕ → ℕ → α)
    (data : ℕ → ℕ → α)
    (h : Consistent T K d (fun k => (members k).length) means data) :
    chPinned T K d members means data =
      chSpec T K d members means data +
        ((T : α) * sqDist d (centroid T data) (fun _ => scalarMean T d data)
          / within K d members means data) * (((T : α) - (K : α)) / ((K : α) - 1)) := by
  unfold chPinned chSpec
  rw [between_decomposition T K d _ means data h, chIndex_add]

/-- the pinned value exceeds the definition's value by exactly
`((T−K)/(K−1)) · T‖c − g𝟙‖² / Wd`. -/
theorem chPinned_eq_chSpec_plus (T K d : ℕ) (members : ℕ → List ℕ) (means : ℕ → ℕ → α)
    (data : ℕ → ℕ → α)
    (h : Consistent T K d (fun k => (members k).length) means data)
    (hW : within K d members means data ≠ 0) :
    chPinned T K d members means data =
      chSpec T K d members means data +
        ((T : α) * sqDist d (centroid T data) (fun _ => scalarMean T d data)
          / within K d members means data) * (((T : α) - (K : α)) / ((K : α) - 1)) := by
  have _ := hW -- not needed, see `chPinned_eq_chSpec_add`
  exact chPinned_eq_chSpec_add T K d members means data h

/-- the pinned value is not translation invariant (witness over ℚ). -/
theorem chPinned_not_translation_invariant :
    ∃ (T K d : ℕ) (members : ℕ → List ℕ) (means data : ℕ → ℕ → ℚ) (t : ℕ → ℚ),
      chPinned T K d members (fun k j => means k j + t j) (fun i j => data i j + t j)
        ≠ chPinned T K d members means data :=
  -- two clusters `{0, 1}`, `{2, 3}` with their true means; sensor 0 is shifted by 5
  ⟨4, 2, 2, fun k => [[0, 1], [2, 3]].getD k [],
    fun k j => ([[0, 1], [4, 7]].getD k []).getD j 0,
    fun i j => ([[0, 0], [0, 2], [3, 6], [5, 8]].getD i []).getD j 0,
    fun j => [5, 0].getD j 0, by decide +kernel⟩

end FastTicc.Numeric
