/-
Property C04 — one label per input row; the unlabeled margin is exactly W−1 points.
Helper lemmas live in `FastTicc/Proofs/Stack.lean`.
(The "labels in [0,K)" clause composes with C01 `viterbi_labels_in_range`; the
"K fields of size NW×NW" clause composes with C11 `fullSize_tri`.)
-/
import FastTicc.Model.Stack
import FastTicc.Proofs.Stack
import FastTicc.Props.C10

namespace FastTicc.Stack

/-- `W - 1` markers are added. -/
theorem pad_length (l : List Int) (W : Nat) (hW : 1 ≤ W) :
    (padMissing l W).length = l.length + W - 1 := by
  rw [padMissing_length, Nat.add_sub_assoc hW]

/-- the front/back split is `⌊(W-1)/2⌋` and the rest. -/
theorem front_back_sum (W : Nat) : frontLen W + backLen W = W - 1 := by
  unfold backLen
  exact Nat.add_sub_cancel' (front_le W)

theorem frontLen_eq (W : Nat) : frontLen W = (W - 1) / 2 := by
  rfl

/-- exactly the first `⌊(W-1)/2⌋` entries are markers … -/
theorem pad_front (l : List Int) (W i : Nat) (hi : i < frontLen W) :
    (padMissing l W)[i]? = some (-1) := by
  unfold padMissing
  rw [List.append_assoc, List.getElem?_append_left (by simpa using hi)]
  simp [hi]

/-- … the middle is the input, untouched and in order … -/
theorem pad_middle (l : List Int) (W i : Nat) (hi : i < l.length) :
    (padMissing l W)[frontLen W + i]? = l[i]? := by
  unfold padMissing
  rw [List.getElem?_append_left (by simp; omega), List.getElem?_append_right (by simp)]
  simp

/-- … and exactly the last `(W-1) - ⌊(W-1)/2⌋` entries are markers. -/
theorem pad_back (l : List Int) (W i : Nat) (hi : i < backLen W) :
    (padMissing l W)[frontLen W + l.length + i]? = some (-1) := by
  unfold padMissing
  rw [List.getElem?_append_right (by simp)]
  simp [hi]

theorem pad_middle_map (ls : List Nat) (f : Nat → Int) (W i : Nat) (hi : i < ls.length) :
    (padMissing (ls.map f) W)[frontLen W + i]? = some (f ls[i]) := by
  rw [pad_middle _ W i (by rw [List.length_map]; exact hi), List.getElem?_map,
    List.getElem?_eq_getElem hi]
  rfl

/-- when the input labels are real labels (`≥ 0`), exactly `W - 1` entries are `-1`. -/
theorem pad_marker_count (l : List Int) (W : Nat) (hl : ∀ x ∈ l, 0 ≤ x) :
    (padMissing l W).count (-1) = W - 1 := by
  have h0 : l.count (-1) = 0 := by
    rw [List.count_eq_zero]
    intro hmem
    have := hl _ hmem
    omega
  rw [padMissing, List.count_append, List.count_append, List.count_replicate_self,
    List.count_replicate_self, h0, Nat.add_zero]
  exact front_back_sum W

/-- single-series front end: `T` labels come back for `T` input rows. -/
theorem single_result_length (labels : List Int) (T W : Nat) (hW : 1 ≤ W) (hT : W ≤ T)
    (hl : labels.length = stackedLen T W) : (padMissing labels W).length = T := by
  rw [padMissing_length, hl]
  exact stackedLen_add_pad hW hT

/-- joint front end: one list per series, in input order … -/
theorem joint_result_count (joint : List Int) (lens : List Nat) (W : Nat) :
    (splitAndPad joint lens W).length = lens.length := by
  simp [splitAndPad, splitJoint_length]

/-- … whose unpadded middles, concatenated in order, are exactly the joint labelling. -/
theorem joint_result_parts (joint : List Int) (lens : List Nat) (W : Nat)
    (hlen : joint.length = lens.sum) :
    (splitJoint joint lens).flatten = joint ∧
    (splitJoint joint lens).map List.length = lens ∧
    splitAndPad joint lens W = (splitJoint joint lens).map (fun l => padMissing l W) := by
  exact ⟨splitJoint_flatten joint lens hlen, splitJoint_lengths joint lens hlen, rfl⟩

/-- each list is as long as its own series, even when series lengths differ
(restated from C10 for the result shape). -/
theorem joint_result_lengths (joint : List Int) (Ts : List Nat) (W : Nat)
    (hW : 1 ≤ W) (hTs : ∀ T ∈ Ts, W ≤ T)
    (hlen : joint.length = (Ts.map (fun T => stackedLen T W)).sum) :
    (splitAndPad joint (Ts.map (fun T => stackedLen T W)) W).map List.length = Ts := by
  exact split_pad_restores_lengths joint Ts W hW hTs hlen

/-- `W//2 - 1` or `W//2` would be wrong formulas for the front margin: they differ from
`(W-1)//2` for some `W` (though not for the default `window_size = 10`, resp. odd `W`). -/
theorem front_formula_alternatives_differ :
    (∃ W, 1 ≤ W ∧ W / 2 - 1 ≠ frontLen W) ∧ (∃ W, 1 ≤ W ∧ W / 2 ≠ frontLen W) ∧
    (10 / 2 - 1 = frontLen 10) := by
  exact ⟨⟨3, by decide⟩, ⟨2, by decide⟩, by decide⟩

/-- non-vacuity. -/
example : padMissing [0, 1, 1] 4 = [-1, 0, 1, 1, -1, -1] ∧
    splitAndPad [0,0,1,2,2] [3,2] 3 = [[-1,0,0,1,-1],[-1,2,2,-1]] := by
  decide

end FastTicc.Stack
