/-
Property C10 — window stacking is exact and never crosses a series boundary.
Property theorems only; helper lemmas live in `FastTicc/Proofs/Stack.lean`.
-/
import FastTicc.Model.Stack
import FastTicc.Proofs.Stack

namespace FastTicc.Stack

variable {α : Type}

/-- exactly `T - W + 1` rows. -/
theorem stack_rows (d : List (List α)) (W : Nat) : (stack d W).length = d.length + 1 - W := by
  simp [stack]

/-- every stacked row has `N * W` columns. -/
theorem stack_cols (d : List (List α)) (N W : Nat) (hN : ∀ row ∈ d, row.length = N)
    (hW : 1 ≤ W) (hT : W ≤ d.length) : ∀ row ∈ stack d W, row.length = N * W := by
  have _ := hW
  have _ := hT
  intro row hrow
  simp only [stack, List.mem_map, List.mem_range] at hrow
  obtain ⟨i, hi, rfl⟩ := hrow
  rw [stackRow_length d N W i hN (add_le_of_lt_windows hi), Nat.mul_comm]

/-- columns `[jN, (j+1)N)` of row `i` are row `i + j` of the input, cell for cell. -/
theorem stack_cell (d : List (List α)) (N W i j k : Nat) (hN : ∀ row ∈ d, row.length = N)
    (hT : W ≤ d.length) (hi : i < d.length + 1 - W) (hj : j < W) (hk : k < N) :
    ((stack d W)[i]?.bind (·[j * N + k]?)) = (d[i + j]?.bind (·[k]?)) ∧
    (d[i + j]?.bind (·[k]?)).isSome := by
  have _ := hT
  have hiW : i + W ≤ d.length := add_le_of_lt_windows hi
  have hlt : i + j < d.length := add_lt_of_add_le hj hiW
  refine ⟨?_, ?_⟩
  · rw [stack_getElem? d W i hi]
    exact stackRow_getElem? d N W i j k hN hiW hj hk
  · rw [List.getElem?_eq_getElem hlt, Option.bind_some,
      List.getElem?_eq_getElem (by rw [hN _ (List.getElem_mem hlt)]; exact hk)]
    rfl

/-- stacking several series is the concatenation, in input order, of the individual stackings. -/
theorem stackMulti_eq_flatten (series : List (List (List α))) (W : Nat) :
    stackMulti series W = (series.map (fun d => stack d W)).flatten := by
  simp [stackMulti, List.flatMap_def]

theorem stackMulti_append (s₁ s₂ : List (List (List α))) (W : Nat) :
    stackMulti (s₁ ++ s₂) W = stackMulti s₁ W ++ stackMulti s₂ W := by
  simp [stackMulti]

theorem stackMulti_single (d : List (List α)) (W : Nat) : stackMulti [d] W = stack d W := by
  simp [stackMulti]

theorem stackMulti_length (series : List (List (List α))) (W : Nat) :
    (stackMulti series W).length = (series.map (fun d => stackedLen d.length W)).sum := by
  simp [stackMulti, List.length_flatMap, stack_rows, stackedLen]

/-- every stacked row of the joint stacking lies inside one series: row `i` of the
concatenation is a row of the stacking of series number `seriesOf lens i`, built only
from rows of that series. -/
theorem stackMulti_row_in_one_series (series : List (List (List α))) (W i : Nat)
    (hi : i < (stackMulti series W).length) :
    let lens := series.map (fun d => stackedLen d.length W)
    ∃ d i', series[seriesOf lens i]? = some d ∧ i' < stackedLen d.length W ∧
      (stackMulti series W)[i]? = some (stackRow d W i') := by
  intro lens
  induction series generalizing i with
  | nil => simp [stackMulti] at hi
  | cons d ds ih =>
    have hsl : (stack d W).length = stackedLen d.length W := stack_rows d W
    rw [stackMulti_cons] at hi ⊢
    show ∃ d' i', (d :: ds)[seriesOf (stackedLen d.length W :: ds.map _) i]? = some d' ∧ _
    rw [seriesOf_cons]
    by_cases h : i < stackedLen d.length W
    · refine ⟨d, i, by simp [h], h, ?_⟩
      rw [List.getElem?_append_left (by rw [hsl]; exact h)]
      exact stack_getElem? d W i h
    · have hlen : (stack d W).length ≤ i := by rw [hsl]; exact Nat.le_of_not_lt h
      rw [List.length_append, hsl] at hi
      obtain ⟨d', i', h1, h2, h3⟩ :=
        ih (i - stackedLen d.length W) (Nat.sub_lt_left_of_lt_add (Nat.le_of_not_lt h) hi)
      refine ⟨d', i', ?_, h2, ?_⟩
      · rw [if_neg h, List.getElem?_cons_succ]; exact h1
      · rw [List.getElem?_append_right hlen, hsl]; exact h3

/-- splitting a concatenated label list by the part lengths restores the parts. -/
theorem split_flatten {β : Type} (parts : List (List β)) :
    splitJoint parts.flatten (parts.map List.length) = parts := by
  induction parts with
  | nil => simp [splitJoint]
  | cons p ps ih => simp [splitJoint, ih]

/-- the real code's length assertion. -/
theorem splitJoint?_isSome_iff {β : Type} (l : List β) (lens : List Nat) :
    (splitJoint? l lens).isSome ↔ l.length = lens.sum := by
  unfold splitJoint?
  split <;> simp_all

/-- splitting by the stacked lengths and padding each part restores one list per
series of the original length. -/
theorem split_pad_restores_lengths (joint : List Int) (Ts : List Nat) (W : Nat)
    (hW : 1 ≤ W) (hTs : ∀ T ∈ Ts, W ≤ T)
    (hlen : joint.length = (Ts.map (fun T => stackedLen T W)).sum) :
    (splitAndPad joint (Ts.map (fun T => stackedLen T W)) W).map List.length = Ts := by
  rw [splitAndPad_lengths joint _ W hlen, List.map_map]
  conv => rhs; rw [← List.map_id Ts]
  exact List.map_congr_left fun T hT => stackedLen_add_pad hW (hTs T hT)

/-- non-vacuity. -/
example : stack [[1,2],[3,4],[5,6]] 2 = [[1,2,3,4],[3,4,5,6]] ∧
    stackMulti [[[1],[2],[3]], [[7],[8]]] 2 = [[1,2],[2,3],[7,8]] := by
  decide

end FastTicc.Stack
