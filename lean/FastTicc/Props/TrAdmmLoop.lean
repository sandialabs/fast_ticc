/-
TRANSLATED CODE = MODEL (`run_admm_optimization` and `admm_update_u` of admm/solver.py, properties C02 / C03).
`Generated/Kernels.lean` is rewritten from the Python AST of `$REPO/src/fast_ticc` by `harness/py2lean.py` on every run; the
theorems below are about those generated definitions.  The X update (an eigendecomposition) and the convergence check (norms
and a square root) are function parameters (`xUpdate`, `checkConv`); the Z update is the translated `admm_update_z` (itself
proved equal to `Numeric.zUpdate` in `Props/TrZUpdate.lean`); the `for … break` loop is a monadic fold over the loop-carried
variables `(z_old, x, z, u, args)` plus a flag that turns the iterations after a `break` into no-ops (the loop
`PyFor.forBreak` of `Props/PyFor.lean`); `args.rho = new_rho` is a record update; the `LOGGER.debug` calls (pure arguments)
have no effect on values.
-/
import FastTicc.Generated.Kernels
import FastTicc.Proofs.Translated
import FastTicc.Model.MainLoop
import FastTicc.Props.PyFor
open FastTicc FastTicc.PyLemmas

namespace FastTicc.Translated

section
variable {ν A : Type} (sweep : MainLoop.Admm ν → MainLoop.Admm ν) (stop : MainLoop.Admm ν → ν → Bool)
  (args : A) (body : Int → ν × ν × ν × ν × A × Bool → Except String (ν × ν × ν × ν × A × Bool))

/-- the loop-carried state is `(z_old, x, z, u, args, brk_)`; the flag is the condition on which `MainLoop.admmLoop` returns -/
theorem forBreak_admmLoop
    (hbody : ∀ (it : Nat) (zOld : ν) (s : MainLoop.Admm ν), body (it : Int) (zOld, s.x, s.z, s.u, args, false)
      = .ok (s.z, (sweep s).x, (sweep s).z, (sweep s).u, args, decide (0 < it ∧ stop (sweep s) s.z = true))) :
    ∀ (fuel it : Nat) (zOld : ν) (s : MainLoop.Admm ν),
      (PyFor.forBreak body (fun st => st.2.2.2.2.2) ((List.range' it fuel).map (fun (k : Nat) => (k : Int)))
          (zOld, s.x, s.z, s.u, args, false)).map (fun st => st.2.1)
        = .ok (MainLoop.admmLoop sweep stop (fun s _ => s) fuel it s).1 := by
  intro fuel
  induction fuel with
  | zero => intro it zOld s; rfl
  | succ f ih =>
    intro it zOld s
    rw [List.range'_succ, List.map_cons, PyFor.forBreak, MainLoop.admmLoop]
    simp only [Bool.false_eq_true, if_false, hbody]
    by_cases hstop : 0 < it ∧ stop (sweep s) s.z = true
    · -- the flag is set: the rest of the loop is skipped
      rw [if_pos hstop, decide_eq_true hstop]
      exact congrArg _ (PyFor.forBreak_broke _ _ _ _ rfl)
    · rw [if_neg hstop, decide_eq_false hstop, ite_self]
      exact ih (it + 1) s.z (sweep s)

/-- the same in the translator's terms: the guarded fold over any spelling `xs` of `range(maxIter)`, the flag computed as
`iteration > 0 and converged`, the X iterate projected out by the `do` block.  Stated in exactly the shape the generated
function unfolds to, so that it applies to it without a rewrite of that large term. -/
theorem forEachE_admmLoop
    (hbrk : ∀ x st, st.2.2.2.2.2 = true → body x st = .ok st)
    (hbody : ∀ (it : Nat) (zOld : ν) (s : MainLoop.Admm ν), body (it : Int) (zOld, s.x, s.z, s.u, args, false)
      = .ok (s.z, (sweep s).x, (sweep s).z, (sweep s).u, args, decide (0 < it) && stop (sweep s) s.z))
    (xs : List Int) (maxIter : Nat) (hxs : xs = (List.range' 0 maxIter).map (fun (k : Nat) => (k : Int)))
    (zOld : ν) (s : MainLoop.Admm ν) :
    (Py.forEachE xs (zOld, s.x, s.z, s.u, args, false) body >>= fun st => pure st.2.1)
      = .ok (MainLoop.admmLoop sweep stop (fun s _ => s) maxIter 0 s).1 := by
  rw [hxs, PyFor.forEachE_eq_forBreak body (fun st => st.2.2.2.2.2) hbrk]
  refine forBreak_admmLoop sweep stop args body (fun it zOld s => ?_) maxIter 0 zOld s
  rw [hbody, Bool.decide_and, Bool.decide_eq_true]
end

section
variable {α : Type} [Zero α] [Add α] [Sub α] [Mul α] [Div α] [LT α] [DecidableLT α] [IntCast α]

omit [Zero α] [Mul α] [Div α] [LT α] [DecidableLT α] [IntCast α] in
/-- the translated U update is `u + x - z`, entry by entry -/
theorem admm_update_u_eq (u x z : Py.Arr1 α) :
    Gen.admm_update_u u x z = Py.Arr1.sub (Py.Arr1.add u x) z := rfl

/-- one sweep of the solver in source order: X from `(u, z)`, Z from `(u, new x)`, U from `(u, new x, new z)` -/
def sweepOf (xUpdate : Py.ADMMArgs α → Py.Arr1 α → Py.Arr1 α → Py.Arr2 α → Py.Arr1 α)
    (zf : Py.Arr1 α → Py.Arr1 α → Py.Arr1 α) (args : Py.ADMMArgs α) (S : Py.Arr2 α)
    (s : MainLoop.Admm (Py.Arr1 α)) : MainLoop.Admm (Py.Arr1 α) :=
  let x' := xUpdate args s.u s.z S
  let z' := zf s.u x'
  ⟨x', z', Gen.admm_update_u s.u x' z'⟩

/-- the stopping rule: the first component of `check_convergence(args, u, x, z, z_old)` -/
def stopOf (checkConv : Py.ADMMArgs α → Py.Arr1 α → Py.Arr1 α → Py.Arr1 α → Py.Arr1 α → Bool × α × α × α × α)
    (args : Py.ADMMArgs α) (s' : MainLoop.Admm (Py.Arr1 α)) (zOld : Py.Arr1 α) : Bool :=
  (checkConv args s'.u s'.x s'.z zOld).1

/-- **the translated `run_admm_optimization` is `MainLoop.admmRun`** (the library's own use: no step-parameter hook): for every
X update, convergence check, argument bundle, covariance and iteration budget - the translated function raises nothing and
returns the X iterate `admmLoop` returns: sweeps in source order from the zero state, the rule consulted only after the first
sweep, the loop left at the first sweep whose check passes, the LAST X (not Z) handed back. -/
theorem run_admm_optimization_eq
    (xUpdate : Py.ADMMArgs α → Py.Arr1 α → Py.Arr1 α → Py.Arr2 α → Py.Arr1 α)
    (checkConv : Py.ADMMArgs α → Py.Arr1 α → Py.Arr1 α → Py.Arr1 α → Py.Arr1 α → Bool × α × α × α × α)
    (args : Py.ADMMArgs α) (S : Py.Arr2 α) (maxIter : Nat) (hmax : args.max_iterations = (maxIter : Int))
    (hcb : args.rho_update = none)
    (zf : Py.Arr1 α → Py.Arr1 α → Py.Arr1 α) (hz : ∀ u x, Gen.admm_update_z args u x = .ok (zf u x)) :
    Gen.run_admm_optimization xUpdate checkConv args S
      = .ok (MainLoop.admmRun (sweepOf xUpdate zf args S) (stopOf checkConv args) (fun s _ => s) maxIter
          (Py.Arr1.const (Py.intOfRat (Py.trueDiv ((args.window_size * args.num_data_series)
            * (args.window_size * args.num_data_series + 1)) 2)) (0 : α))).1 := by
  have hrange : Py.range 0 args.max_iterations 1 = (List.range' 0 maxIter).map (fun (k : Nat) => (k : Int)) := by
    rw [hmax, range_zero_one, List.range_eq_range']
  unfold Gen.run_admm_optimization MainLoop.admmRun
  refine forEachE_admmLoop (sweepOf xUpdate zf args S) (stopOf checkConv args) args _ (fun _ _ h => if_pos h) ?_ _ maxIter
    hrange (Py.Arr1.const 0 (0 : α)) ⟨_, _, _⟩
  -- one pass of the generated body from an unbroken state: the Z update succeeds (`hz`), there is no hook (`hcb`)
  intro it zOld s
  simp only [hz, hcb, sweepOf, stopOf, Bool.false_eq_true, if_false, Option.isSome_none, ite_self, bind, Except.bind,
    pure, Except.pure]
  -- what is left is the flag: `if it > 0 then (if converged then true else false) else false`
  generalize (checkConv _ _ _ _ _).1 = converged
  by_cases hk : 0 < it
  · cases converged <;> simp [hk]
  · simp [hk]
end
end FastTicc.Translated
