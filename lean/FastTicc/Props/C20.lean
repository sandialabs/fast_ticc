/-
Property C20 — failures surface as exceptions, never as a partial result.
Helper lemmas live in `FastTicc/Proofs/MainLoop.lean`.
-/
import FastTicc.Props.C09

namespace FastTicc.MainLoop

variable {σ ε L : Type} [DecidableEq L] (P : Phases σ ε) (labels : σ → L)

/-- a round fails exactly with the error of its first failing phase, in the order
repop (rounds > 0 only) → stats → opt → relabel. -/
theorem round_error_iff (i : Nat) (s : σ) (e : ε) :
    round P i s = .error e ↔
      ((0 < i ∧ P.repop s = .error e) ∨
       ∃ s1, (if 0 < i then P.repop s else .ok s) = .ok s1 ∧
         (P.stats s1 = .error e ∨
          ∃ s2, P.stats s1 = .ok s2 ∧
            (P.opt s2 = .error e ∨ ∃ s3, P.opt s2 = .ok s3 ∧ P.relabel s3 = .error e))) := by
  have h0 : (if 0 < i then P.repop s else .ok s) = .error e ↔ 0 < i ∧ P.repop s = .error e := by
    split
    next hi => exact (and_iff_right hi).symm
    next hi => exact ⟨(fun h => nomatch h), fun h => absurd h.1 hi⟩
  rw [round_eq, bind_error_iff, h0]
  simp only [bind_error_iff]

/-- if the run raises, the error is one raised by a round that was actually reached. -/
theorem run_error_from_a_round (limit : Nat) (s0 : σ) (e : ε)
    (h : run P labels limit s0 = .error e) :
    ∃ j sPrev, j < limit ∧ round P j sPrev = .error e := by
  obtain ⟨j, sPrev, _, h2, h3⟩ := loop_error_from_round P labels limit 0 none s0 [] e h
  exact ⟨j, sPrev, Nat.zero_add limit ▸ h2, h3⟩

/-- a failing round is never swallowed: if the loop is about to run round `i` on state `s`
and that round fails, the whole call fails with that error — no result is produced. -/
theorem fault_surfaces (fuel i : Nat) (prev : Option L) (s : σ) (hist : List σ) (e : ε)
    (h : round P i s = .error e) :
    loop P labels (fuel + 1) i prev s hist = .error e := by
  rw [loop, h]
  rfl

/-- a result is returned only if every round that ran succeeded. -/
theorem no_partial_result (limit : Nat) (s0 : σ) (r : Outcome σ)
    (h : run P labels limit s0 = .ok r) (j : Nat) (hj : j < r.rounds) :
    ∃ sPrev sj, (if j = 0 then some s0 else r.history[j - 1]?) = some sPrev ∧
      round P j sPrev = .ok sj := by
  obtain ⟨sPrev, sj, e1, _, e3⟩ := history_chain P labels limit s0 r h j hj
  exact ⟨sPrev, sj, e1, e3⟩

/-- gathering raises the first failure in cluster order (`AsyncResult.get` order) … -/
theorem gather_error_first {β : Type} (ts : List (Except ε β)) (e : ε) :
    gather ts = .error e ↔
      ∃ k : Nat, ts[k]? = some (Except.error e) ∧ ∀ j : Nat, j < k → ∃ v, ts[j]? = some (Except.ok v) := by
  induction ts with
  | nil => simp [gather_nil]
  | cons t ts ih =>
    -- either the head fails (`k = 0`), or it succeeds and the tail's first failure is one index further on
    rw [gather_cons, bind_error_iff]
    simp only [map_error_iff, ih]
    constructor
    · rintro (rfl | ⟨v, rfl, k, hk, hall⟩)
      · exact ⟨0, rfl, fun j hj => absurd hj (Nat.not_lt_zero j)⟩
      · refine ⟨k + 1, hk, fun j hj => ?_⟩
        cases j with
        | zero => exact ⟨v, rfl⟩
        | succ j => exact hall j (Nat.lt_of_succ_lt_succ hj)
    · rintro ⟨k, hk, hall⟩
      cases k with
      | zero => exact .inl (Option.some.inj hk)
      | succ k =>
        obtain ⟨v, hv⟩ := hall 0 (Nat.succ_pos k)
        exact .inr ⟨v, Option.some.inj hv, k, hk, fun j hj => hall (j + 1) (Nat.succ_lt_succ hj)⟩

/-- … and returns a value only when every task succeeded, in cluster order. -/
theorem gather_ok_iff {β : Type} (ts : List (Except ε β)) (vs : List β) :
    gather ts = .ok vs ↔ ts = vs.map Except.ok := by
  induction ts generalizing vs with
  | nil => cases vs <;> simp [gather_nil]
  | cons t ts ih =>
    rw [gather_cons, bind_ok_iff]
    simp only [map_ok_iff, ih]
    constructor
    · rintro ⟨v, rfl, ws, rfl, rfl⟩
      rfl
    · intro h
      cases vs with
      | nil => cases h
      | cons w ws =>
        obtain ⟨rfl, rfl⟩ := List.cons.inj h
        exact ⟨w, rfl, ws, rfl, rfl⟩

/-- repaired pool handling: on every path the pool ends joined; it is closed normally exactly
when a result is returned, and the outcome itself is the loop's outcome. -/
theorem pool_never_left_open (limit : Nat) (s0 : σ) :
    let r := runWithPool true P labels limit s0
    r.1 = run P labels limit s0 ∧
    (r.2 = .closedJoined ∨ r.2 = .terminatedJoined) ∧
    (r.2 = .closedJoined ↔ ∃ o, r.1 = .ok o) := by
  simp only [runWithPool]
  cases run P labels limit s0 with
  | error e => simp
  | ok o => simp

/-- the pinned behaviour leaves the pool behind on the error path. -/
theorem pool_leak_pinned :
    ∃ (P : Phases Nat Unit), (runWithPool false P (fun s => s) 3 0).2 = .abandoned := by
  exact ⟨⟨fun _ => .error (), fun _ => .error (), fun _ => .error (), fun _ => .error ()⟩, by decide⟩

/-- giving a front end the other front end's kind of input is a `TypeError` naming the right
entry point; the right kind is accepted. -/
theorem wrong_front_end_is_type_error :
    singleFrontEndAccepts .listOfArrays = .error (.typeError "ticc_joint_labels") ∧
    jointFrontEndAccepts .array2d = .error (.typeError "ticc_labels") ∧
    singleFrontEndAccepts .array2d = .ok () ∧ jointFrontEndAccepts .listOfArrays = .ok () := by
  exact ⟨rfl, rfl, rfl, rfl⟩

end FastTicc.MainLoop
