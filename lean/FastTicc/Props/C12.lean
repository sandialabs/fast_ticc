/-
Property C12 — each cluster is fitted to exactly its own windows, with the requested estimator.
Property theorems only; helper lemmas live in `FastTicc/Proofs/Stats.lean`.
-/
import FastTicc.Model.Numeric
import FastTicc.Model.Repop
import FastTicc.Proofs.Stats
import FastTicc.Proofs.Repop
import Mathlib.Algebra.Order.Field.Basic

namespace FastTicc.Numeric

variable {α : Type} [Field α] [LinearOrder α] [IsStrictOrderedRing α]

-- the order structure is part of the stated context but several identities hold in any field
set_option linter.unusedSectionVars false

/-- the mean is the sum over exactly the member rows divided by their number. -/
theorem clusterMean_spec (data : ℕ → ℕ → α) (members : List ℕ) (j : ℕ) :
    clusterMean data members j = (members.map (fun i => data i j)).sum / (members.length : α) := by
  unfold clusterMean
  rw [sumOver_eq_sum]

/-- the covariance divides by `n` when the biased estimator is requested and by `n − 1` otherwise. -/
theorem cov_divisor (data : ℕ → ℕ → α) (members : List ℕ) (a b : ℕ) :
    let ma := clusterMean data members a
    let mb := clusterMean data members b
    let s := (members.map (fun i => (data i a - ma) * (data i b - mb))).sum
    clusterCov data members true a b = s / (members.length : α) ∧
    clusterCov data members false a b = s / ((members.length : α) - 1) := by
  intro ma mb s
  constructor
  · simp only [clusterCov, sumOver_eq_sum, if_true, sub_zero]
    rfl
  · simp only [clusterCov, sumOver_eq_sum, Bool.false_eq_true, if_false, Nat.cast_one]
    rfl

/-- the two estimators differ exactly by the factor `n/(n−1)` (`n ≥ 2`). -/
theorem cov_biased_unbiased (data : ℕ → ℕ → α) (members : List ℕ) (a b : ℕ)
    (hn : 2 ≤ members.length) :
    clusterCov data members false a b * ((members.length : α) - 1)
      = clusterCov data members true a b * (members.length : α) := by
  obtain ⟨ht, hf⟩ := cov_divisor data members a b
  have hn0 : (members.length : α) ≠ 0 :=
    Nat.cast_ne_zero.mpr (Nat.lt_of_lt_of_le Nat.zero_lt_two hn).ne'
  have hn1 : (members.length : α) - 1 ≠ 0 :=
    sub_ne_zero.mpr (Nat.cast_ne_one.mpr (Nat.lt_of_lt_of_le Nat.one_lt_two hn).ne')
  rw [ht, hf, div_mul_cancel₀ _ hn1, div_mul_cancel₀ _ hn0]

/-- statistics do not depend on the order of the member list … -/
theorem stats_perm_invariant (data : ℕ → ℕ → α) (m₁ m₂ : List ℕ) (h : m₁.Perm m₂)
    (biased : Bool) (a b : ℕ) :
    clusterMean data m₁ a = clusterMean data m₂ a ∧
    clusterCov data m₁ biased a b = clusterCov data m₂ biased a b :=
  stats_congr data data m₁ m₂ h.length_eq (fun _ => sumOver_perm h _) biased a b

/-- … and use no row outside the cluster: two data sets that agree on the rows labelled `k`
give cluster `k` the same mean and covariance (no other window contributes). -/
theorem stats_only_own_rows (data data' : ℕ → ℕ → α) (labels : List ℕ) (k : ℕ)
    (h : ∀ i j, labels[i]? = some k → data i j = data' i j) (biased : Bool) (a b : ℕ) :
    clusterMean data (Repop.members labels k) a = clusterMean data' (Repop.members labels k) a ∧
    clusterCov data (Repop.members labels k) biased a b
      = clusterCov data' (Repop.members labels k) biased a b := by
  have hrow : ∀ i ∈ Repop.members labels k, data i = data' i :=
    fun i hi => funext fun j => h i j (Repop.mem_members.mp hi)
  exact stats_congr data data' _ _ rfl
    (fun f => sumOver_congr _ _ _ fun i hi => congrArg f (hrow i hi)) biased a b

/-- none missing: the member list derived from the labels holds every point labelled `k`, once. -/
theorem members_exact (labels : List ℕ) (k i : ℕ) :
    (i ∈ Repop.members labels k ↔ labels[i]? = some k) ∧ (Repop.members labels k).Nodup := by
  exact ⟨Repop.mem_members, Repop.members_nodup labels k⟩

/-- non-vacuity. -/
example :
    let data : ℕ → ℕ → ℚ := fun i j => ([[1, 2], [3, 6], [5, 1]].getD i []).getD j 0
    clusterMean data [0, 1, 2] 0 = 3 ∧ clusterCov data [0, 1, 2] false 0 0 = 4 ∧
    clusterCov data [0, 1, 2] true 0 0 = 8 / 3 := by
  decide +kernel

end FastTicc.Numeric
