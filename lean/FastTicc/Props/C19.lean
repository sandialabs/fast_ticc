/-
Property C19 — caller-owned data is never modified (write-set skeleton in the heap model;
that the model lists every write of the real code is what the byte snapshots check).
Property theorems and the definitions they are stated with; helper lemmas live in `FastTicc/Proofs/Heap.lean`.
-/
import FastTicc.Model.Heap
import FastTicc.Model.Numeric
import FastTicc.Proofs.Heap

namespace FastTicc.Heap

/-- the caller-owned objects a state refers to: the training data and the argument bundle
(with its possibly array-valued sparsity weight and switching cost). -/
def callerOwned (h : Heap) (s : Nat) : Option (Arr × Args) :=
  (h.state? s).map (fun st => (st.data, h.argsOf st.args))

/-- no modelled operation writes to caller-owned objects: after any phase, every state that
existed before still refers to the same data array (same identity, same content) and the same
argument values, and the returned state refers to the caller's own objects, not copies. -/
theorem phases_frame_caller_owned (h : Heap) (s : Nat) (moves : List (List Nat))
    (newLabels : List Nat) (cost : Nat) (t : Nat) (ht : t < h.states.length) :
    callerOwned (repopPhase h s moves).2 t = callerOwned h t ∧
    callerOwned (statsPhase h s).2 t = callerOwned h t ∧
    callerOwned (optPhase h s).2 t = callerOwned h t ∧
    callerOwned (relabelPhase h s newLabels cost).2 t = callerOwned h t :=
  ⟨(repopPhase_grow h s moves).callerOwned ht, (statsPhase_grow h s).callerOwned ht,
    (optPhase_grow h s).callerOwned ht, (relabelPhase_grow h s newLabels cost).callerOwned ht⟩

theorem assign_frame_caller_owned (h : Heap) (s : Nat) (lab : Nat × List Nat) (t : Nat) :
    callerOwned (assign h s lab) t = callerOwned h t :=
  (assign_local h s lab).shape.callerOwned t

/-- the argument cells themselves are never written (only appended to by copies). -/
theorem args_cells_immutable (h : Heap) (s : Nat) (moves : List (List Nat))
    (newLabels : List Nat) (cost : Nat) (a : Nat) (ha : a < h.args.length) :
    (repopPhase h s moves).2.args[a]? = h.args[a]? ∧
    (statsPhase h s).2.args[a]? = h.args[a]? ∧
    (optPhase h s).2.args[a]? = h.args[a]? ∧
    (relabelPhase h s newLabels cost).2.args[a]? = h.args[a]? ∧
    (deepState true h s).2.args[a]? = h.args[a]? :=
  ⟨congrArg (·[a]?) (repopPhase_grow h s moves).args, congrArg (·[a]?) (statsPhase_grow h s).args,
    congrArg (·[a]?) (optPhase_grow h s).args,
    congrArg (·[a]?) (relabelPhase_grow h s newLabels cost).args, deepState_args true h s ha⟩

end FastTicc.Heap

namespace FastTicc.Numeric
open FastTicc.Index

variable {α : Type} [Add α] [Sub α] [Neg α] [Zero α] [LT α] [DecidableLT α]

/-- `_reconstruct_optimized_matrix`: the in-place (`copy=False`) floor filter is applied to the
matrix `reinflate_matrix` has just allocated; as a function of the solver's compressed result it
is a pure map, so neither the compressed result nor any caller array is written. -/
def reconstruct (eps : α) (v : List α) (r c : Nat) : α := floorFilter eps (reinflate v r c)

/-- with no floor requested the reconstruction is exactly the re-inflated matrix. -/
theorem reconstruct_eps_zero_pointwise (v : List α) (r c : Nat)
    (h : ∀ x : α, ¬ (x < 0 ∧ -(0 : α) < x)) : reconstruct 0 v r c = reinflate v r c := by
  unfold reconstruct floorFilter
  exact if_neg (h _)

end FastTicc.Numeric
