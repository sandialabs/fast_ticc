/-
Property C17 (continued) — the hypothesis `Consistent` of `between_decomposition` /
`chPinned_eq_chSpec_plus` is established by what the algorithm actually has: member lists that
partition the `T` points and cluster means that are the means of their members.
-/
import FastTicc.Props.C17
import FastTicc.Model.Repop
import FastTicc.Proofs.ListLemmas
import Mathlib.Data.List.Nodup

namespace FastTicc.Numeric

variable {α : Type} [Field α] [LinearOrder α] [IsStrictOrderedRing α]

/-- the member lists of clusters `0..K-1` form a partition of the points `0..T-1`. -/
def IsPartition (T K : ℕ) (members : ℕ → List ℕ) : Prop :=
  ((List.range K).flatMap members).Perm (List.range T)

/-- if the member lists partition the points, every cluster is non-empty, and each cluster mean is
the mean of its members (what the statistics phase computes, C12), then sizes and means are
`Consistent` with the data — so the exact-deviation theorems of C17 apply to every real run. -/
theorem consistent_of_partition (T K d : ℕ) (members : ℕ → List ℕ) (data : ℕ → ℕ → α)
    (hT : 0 < T) (hpart : IsPartition T K members) (hne : ∀ k, k < K → members k ≠ []) :
    Consistent T K d (fun k => (members k).length)
      (fun k j => clusterMean data (members k) j) data := by
  have _ := hne -- not needed: an empty cluster contributes `0 * (0 / 0) = 0`
  constructor
  · -- every size is a sum of ones
    simpa only [sumTo_eq_sumOver, sumOver_const, one_mul, List.length_range]
      using sumTo_sumOver_partition hpart (fun _ => (1 : α))
  · intro j
    have hT' : (T : α) ≠ 0 := Nat.cast_ne_zero.mpr hT.ne'
    rw [centroid, mul_div_cancel₀ _ hT', ← sumTo_sumOver_partition hpart]
    exact sumTo_congr _ _ _ fun k _ => length_mul_clusterMean data (members k) j

/-- the labelling-derived member lists (C13's invariant) do partition the points. -/
theorem members_partition (labels : List ℕ) (K : ℕ) (hK : ∀ l ∈ labels, l < K) :
    IsPartition labels.length K (fun k => Repop.members labels k) := by
  -- the member lists group the indices by their label
  have hks : ((List.range K).map some).Nodup := List.nodup_range.map (Option.some_injective _)
  have h := flatMap_filter_perm (fun i => labels[i]?) (List.range labels.length) _ hks
  rw [List.flatMap_map] at h
  -- every index carries a label `< K`, so the filter on the right keeps all of them
  refine h.trans (List.Perm.of_eq (List.filter_eq_self.mpr ?_))
  intro i hi
  have hi' := List.mem_range.mp hi
  simpa [List.getElem?_eq_getElem hi'] using hK _ (List.getElem_mem hi')

/-- hence, for a real run: reported (pinned) index = definition + the proved deviation. -/
theorem chPinned_deviation_of_labels (labels : List ℕ) (K d : ℕ) (data : ℕ → ℕ → α)
    (hT : 0 < labels.length) (hK : ∀ l ∈ labels, l < K)
    (hne : ∀ k, k < K → Repop.members labels k ≠ []) :
    let members := fun k => Repop.members labels k
    let means := fun k j => clusterMean data (members k) j
    let T := labels.length
    chPinned T K d members means data =
      chSpec T K d members means data +
        ((T : α) * sqDist d (centroid T data) (fun _ => scalarMean T d data)
          / within K d members means data) * (((T : α) - (K : α)) / ((K : α) - 1)) := by
  intro members means T
  exact chPinned_eq_chSpec_add T K d members means data
    (consistent_of_partition T K d members data hT (members_partition labels K hK) hne)

end FastTicc.Numeric
