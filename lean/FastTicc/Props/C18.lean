/-
Property C18 — equivalent parameter forms give identical results (exact-arithmetic skeleton;
bitwise equality across forms is observed by the correspondence).
Property theorems and the definitions they are stated with; helper lemmas live in `FastTicc/Proofs/Stats.lean`.
-/
import FastTicc.Model.Numeric
import FastTicc.Proofs.Stats
import FastTicc.Props.C11
import Mathlib.Algebra.Order.Field.Basic

namespace FastTicc.Numeric
open FastTicc.Index

variable {α : Type} [Field α] [LinearOrder α] [IsStrictOrderedRing α]

/-- scalar weight × occurrences = sum of the constant matrix over the class positions. -/
theorem lambdaSum_scalar_eq_const_matrix (v : α) (b r c N W : Nat) :
    lambdaSum (.scalar v) b r c N W = lambdaSum (.matrix (fun _ _ => v)) b r c N W := by
  show lambdaSumScalar v b W = lambdaSumMatrix (fun _ _ => v) b r c N W
  unfold lambdaSumScalar lambdaSumMatrix
  rw [sumOver_const, class_size]

/-- hence the whole Z-update (and so every ADMM iterate) is the same for the two forms. -/
theorem zUpdate_scalar_eq_const_matrix (rho v : α) (N W : Nat) (u x : List α) :
    zUpdate rho (.scalar v) N W u x = zUpdate rho (.matrix (fun _ _ => v)) N W u x := by
  unfold zUpdate classValue
  simp only [lambdaSum_scalar_eq_const_matrix]

/-- the tags of scalar hyper-parameter types the dispatch glue may see. -/
inductive PyNum where
  | pyInt | pyFloat | npFloat64 | npFloat32 | npFloat16 | npInt64 | npInt32 | ndarray | other
  deriving DecidableEq, Repr

inductive Branch where
  | scalar | matrix | valueError
  deriving DecidableEq, Repr

/-- pinned `compute_lambda_sum`: `isinstance(x, float)` (np.float64 subclasses float). -/
def dispatchPinned : PyNum → Branch
  | .pyFloat | .npFloat64 => .scalar
  | .ndarray => .matrix
  | _ => .valueError

/-- repaired: any real scalar (`int`, `float`, NumPy integer / floating). -/
def dispatchRepaired : PyNum → Branch
  | .pyInt | .pyFloat | .npFloat64 | .npFloat32 | .npFloat16 | .npInt64 | .npInt32 => .scalar
  | .ndarray => .matrix
  | .other => .valueError

def isRealScalar : PyNum → Bool
  | .ndarray | .other => false
  | _ => true

theorem dispatch_total_on_reals (t : PyNum) (h : isRealScalar t = true) :
    dispatchRepaired t = .scalar := by
  cases t <;> first | rfl | exact absurd h (by decide)

theorem dispatch_pinned_rejects :
    dispatchPinned .pyInt = .valueError ∧ dispatchPinned .npFloat32 = .valueError ∧
    dispatchPinned .npInt64 = .valueError := by
  exact ⟨rfl, rfl, rfl⟩

end FastTicc.Numeric
