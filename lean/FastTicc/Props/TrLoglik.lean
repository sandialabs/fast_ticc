/-
TRANSLATED CODE = MODEL (the likelihood kernels of likelihood.py, properties C05 / C15).  `Generated/Kernels.lean` is
rewritten from the Python AST of `$REPO/src/fast_ticc` by `harness/py2lean.py` on every run; the theorems below are about
those generated definitions.  The constant `np.log(2 * math.pi)` of the source is the parameter `log2pi`; `x.T @ Θ @ x`
is `Py.dot (Py.vecMat x Θ) x` (sums accumulated from 0 in index order; BLAS summation order is not modelled).
-/
import FastTicc.Generated.Kernels
import FastTicc.Proofs.Translated
import FastTicc.Model.Numeric
import FastTicc.Props.C05
import Mathlib.Algebra.Order.Field.Basic
open FastTicc FastTicc.PyLemmas

namespace FastTicc.Translated
section
variable {α : Type} [Field α] [LinearOrder α]

theorem py_sumTo_eq (n : Nat) (f : Nat → α) : Py.sumTo n f = Numeric.sumTo n f := rfl

/-- **the translated per-point kernel is the model's log-likelihood formula**: for a window `x`, a mean and a precision
matrix of the same dimension `n = W·N`, with `log2pi` standing for the constant `np.log(2π)`. -/
theorem point_log_likelihood_fast_eq (log2pi : α) (x mu : Py.Arr1 α) (theta : Py.Arr2 α) (logdet : α) (W N : Nat)
    (hcols : theta.cols = x.n) :
    Gen.point_log_likelihood_fast log2pi x mu theta logdet (W : Int) (N : Int)
      = Numeric.logLik x.n (1 / 2) logdet (((W * N : Nat) : α) * log2pi) theta.get mu.get x.get := by
  unfold Gen.point_log_likelihood_fast Numeric.logLik Numeric.quadForm Py.dot Py.vecMat Py.Arr1.sub
  simp only [py_sumTo_eq, hcols, Int.cast_one, Int.cast_ofNat, Int.cast_mul, Int.cast_natCast, Nat.cast_mul]


/-- filling a table row by row, cell by cell (the double loop `for p in range(T): for k in range(K): t[p, k] = F p k`) -/
theorem fill_table {β : Type} (T K : Nat) (F : Nat → Nat → β) (init : Py.Arr2 β) (hr : init.rows = T) (hc : init.cols = K) :
    ∀ m, ((List.range m).foldl (fun s (p : Nat) =>
            (List.range K).foldl (fun s (k : Nat) => Py.Arr2.set s (p : Int) (k : Int) (F p k)) s) init).rows = T ∧
      ((List.range m).foldl (fun s (p : Nat) =>
            (List.range K).foldl (fun s (k : Nat) => Py.Arr2.set s (p : Int) (k : Int) (F p k)) s) init).cols = K ∧
      ∀ r c, ((List.range m).foldl (fun s (p : Nat) =>
            (List.range K).foldl (fun s (k : Nat) => Py.Arr2.set s (p : Int) (k : Int) (F p k)) s) init).get r c
        = if r < m ∧ c < K then F r c else init.get r c := by
  intro m
  rw [fill_table_eq]
  exact ⟨hr, hc, fun _ _ => rfl⟩

/-- **the translated likelihood table is the model's table**: `T` windows of dimension `N·W`, `K` clusters; cell
`(p, k)` is the log-likelihood formula at (window `p`, mean `k`, precision matrix `k`, log-determinant `k`). -/
theorem all_points_all_clusters_log_likelihood_fast_eq (log2pi : α) (W N K : Nat) (hW : 0 < W)
    (mus : Py.Arr2 α) (thetas : List (Py.Arr2 α)) (logdets : Py.Arr1 α) (data : Py.Arr2 α)
    (hdata : data.cols = N * W) (hmus : mus.rows = K ∧ mus.cols = N * W) (hth : thetas.length = K)
    (hthc : ∀ th ∈ thetas, th.cols = N * W) (hld : logdets.n = K) :
    (Gen.all_points_all_clusters_log_likelihood_fast log2pi (W : Int) (K : Int) mus thetas logdets data).rows = data.rows ∧
    (Gen.all_points_all_clusters_log_likelihood_fast log2pi (W : Int) (K : Int) mus thetas logdets data).cols = K ∧
    ∀ p k, p < data.rows → k < K →
      (Gen.all_points_all_clusters_log_likelihood_fast log2pi (W : Int) (K : Int) mus thetas logdets data).get p k
        = Numeric.logLikTable (N * W) (1 / 2) (((W * N : Nat) : α) * log2pi) logdets.get
            (fun k => (thetas.getD k default).get) mus.get data.get p k := by
  unfold Gen.all_points_all_clusters_log_likelihood_fast
  simp only [Py.Arr2.shape0, Py.Arr2.shape1, hdata, trueDiv_mul_cancel N W hW, forEach_range]
  -- the cell function does not depend on the table being filled
  rw [fill_table_eq]
  refine ⟨Int.toNat_natCast _, Int.toNat_natCast _, ?_⟩
  intro p k hp hk
  simp only [hp, hk, and_self, if_true]
  have hth_k : Py.getItem thetas (k : Int) = thetas.getD k default := by
    unfold Py.getItem; rw [idx_nat]
  have hmem : thetas.getD k default ∈ thetas := by
    rw [List.getD_eq_getElem?_getD, List.getElem?_eq_getElem (hth ▸ hk)]
    exact List.getElem_mem _
  rw [hth_k, point_log_likelihood_fast_eq]
  · unfold Numeric.logLikTable
    simp only [Py.Arr2.row, Py.Arr1.get1, idx_nat, hdata, hmus.1, hld]
  · simp only [Py.Arr2.row, hdata]
    exact hthc _ hmem

end

/-- **C05 about the translated kernel**: with `log2pi = log(2π)` and `log_det_theta = log det Θ` (det Θ > 0) the value the
translated `point_log_likelihood_fast` returns is the logarithm of the Gaussian density
`(2π)^{-n/2} (det Θ)^{1/2} exp(-½ (x-μ)ᵀ Θ (x-μ))`, `n = W·N`, for every window, mean and precision matrix. -/
theorem translated_loglik_is_log_gaussian_density (x mu : Py.Arr1 ℝ) (theta : Py.Arr2 ℝ) (detTheta : ℝ) (W N : Nat)
    (hn : x.n = W * N) (hcols : theta.cols = x.n) (hdet : 0 < detTheta) :
    Gen.point_log_likelihood_fast (Real.log (2 * Real.pi)) x mu theta (Real.log detTheta) (W : Int) (N : Int)
      = Real.log ((2 * Real.pi) ^ (-((W * N : Nat) : ℝ) / 2) * Real.sqrt detTheta *
          Real.exp (-(1 / 2) * Numeric.quadForm (W * N) theta.get (fun i => x.get i - mu.get i))) := by
  rw [point_log_likelihood_fast_eq _ _ _ _ _ _ _ hcols, hn]
  exact Numeric.ll_is_log_gaussian_density (W * N) (2 * Real.pi) detTheta (by positivity) hdet theta.get mu.get x.get

end FastTicc.Translated
