/-
Whole-result theorems: what `fit_stacked_data` returns (`Final.report` of the outcome of `Run.run`)
is internally consistent — for every input, every oracle (ADMM outputs, random draws, needy-set
orders) and every iteration limit.  These compose C01 (optimal labelling, reported cost = cost of the
path), C06 (likelihood accounting), C09 (the returned state is the last round's), C12 (means of
exactly the member windows), C16 (run counting) and C17 (exact deviation of the scalar-centred
index) on ONE object, the report of a run, instead of on separately supplied pieces.
Helper lemmas live in `FastTicc/Proofs/Final.lean`.
-/
import FastTicc.Props.Run
import FastTicc.Props.C06
import FastTicc.Props.C16
import FastTicc.Props.C17b
import FastTicc.Proofs.Final

namespace FastTicc.Final
open FastTicc FastTicc.Run FastTicc.Viterbi

variable {α : Type} [Field α] [LinearOrder α] [IsStrictOrderedRing α]

/-- the returned labelling labels each of the `T` windows with a cluster index. -/
theorem report_labels_valid (inp : Input α) (orc : Oracles α) (logT thr : α) (biased : Bool)
    (hK : 0 < inp.K) (hT : 0 < inp.T) (limit : Nat) (hl : 1 ≤ limit) (init : List Nat)
    (rep : Report α) (h : fit inp orc logT thr biased limit init = .ok rep) :
    rep.labels.length = inp.T ∧ ∀ l ∈ rep.labels, l < inp.K := by
  obtain ⟨o, hr, rfl⟩ := fit_ok h
  exact final_labels_valid inp orc hK hT hl hr

/-- the model the result is scored with is the one fitted in the last round: the stored means are
the means of exactly the windows of the labelling that round's statistics phase saw
(`final.fitted`), and the MRFs are that round's (`fitRound = rounds − 1`). -/
theorem report_scoring_model (inp : Input α) (orc : Oracles α) (limit : Nat) (hl : 1 ≤ limit)
    (init : List Nat) (o : MainLoop.Outcome (St α)) (h : run inp orc limit init = .ok o) :
    o.final.means = meanTable inp o.final.fitted ∧ fitRound o.final = o.rounds - 1 := by
  obtain ⟨s1, hs⟩ := run_final inp orc hl h
  refine ⟨by rw [hs]; rfl, ?_⟩
  unfold fitRound
  rw [run_final_round inp orc hl h]

/-- COST IDENTITY on the report of a run: the reported assignment cost is minus the sum of the
reported per-point log-likelihoods plus the switching cost of every consecutive pair of windows
that carries different labels, each priced by its own `beta`. -/
theorem report_cost_identity (inp : Input α) (orc : Oracles α) (logT thr : α) (biased : Bool)
    (hK : 0 < inp.K) (hT : 0 < inp.T) (hb : ∀ b ∈ inp.betas, 0 ≤ b) (limit : Nat) (hl : 1 ≤ limit)
    (init : List Nat) (rep : Report α) (h : fit inp orc logT thr biased limit init = .ok rep) :
    rep.cost = - (Result.sum rep.agg.all) + switchSum (fun i => inp.betas.getD i 0) rep.labels := by
  obtain ⟨o, hr, rfl⟩ := fit_ok h
  obtain ⟨s1, hs⟩ := run_final inp orc hl hr
  -- the aggregate list is a rearrangement of the per-point values, so it has their sum
  have hall : Result.sum (report inp orc logT thr biased o).agg.all
      = (pointLLs inp orc o.final).sum :=
    (Result.sum_perm _ _ (report_all_perm inp orc logT thr biased hK hT hl hr)).trans
      (Result.sum_eq_sum _)
  show o.final.cost = - Result.sum (report inp orc logT thr biased o).agg.all
    + switchSum (fun i => inp.betas.getD i 0) o.final.labels
  rw [hall, hs]
  exact relab_cost_identity inp orc _ hK hT hb

/-- LIKELIHOOD ACCOUNTING on the report of a run: the per-point list has one entry per window and is
a rearrangement (grouped by cluster) of the windows' log-likelihoods under the returned model; the
overall sum, mean and median are those of exactly these `T` values. -/
theorem report_likelihood_accounting (inp : Input α) (orc : Oracles α) (logT thr : α) (biased : Bool)
    (hK : 0 < inp.K) (hT : 0 < inp.T) (limit : Nat) (hl : 1 ≤ limit)
    (init : List Nat) (o : MainLoop.Outcome (St α)) (h : run inp orc limit init = .ok o) :
    let rep := report inp orc logT thr biased o
    rep.agg.all.Perm (pointLLs inp orc o.final) ∧ rep.agg.all.length = inp.T ∧
      rep.agg.total = Result.sum (pointLLs inp orc o.final) ∧
      rep.agg.mean = Result.mean (pointLLs inp orc o.final) ∧
      rep.agg.median = Result.median (pointLLs inp orc o.final) := by
  intro rep
  have hp : rep.agg.all.Perm (pointLLs inp orc o.final) :=
    report_all_perm inp orc logT thr biased hK hT hl h
  refine ⟨hp, ?_, Result.sum_perm _ _ hp, Result.mean_perm _ _ hp, Result.median_perm _ _ hp⟩
  rw [hp.length_eq]
  simp [pointLLs]

omit [LinearOrder α] [IsStrictOrderedRing α] in
/-- PARAMETER COUNT on the report of a run: one term per maximal run of equal consecutive labels of
the returned labelling — the number of entries of that cluster's returned MRF above the threshold. -/
theorem report_params_runs [LT α] [DecidableLT α] (inp : Input α) (orc : Oracles α) (thr : α) (s : St α) :
    bicParams inp orc thr s =
      ((Result.runHeads s.labels).map (fun k => Result.nnz thr (thetaRows inp orc s k))).sum :=
  Result.runsParams_eq_sum_over_maximal_runs _ _

/-- CALINSKI-HARABASZ on the report of a run: the reported (scalar-centred) value is the definition
evaluated on the returned labelling and the means of its member windows, plus the exact deviation
`T‖c − g𝟙‖²/Wd · (T−K)/(K−1)` — whenever every cluster of the returned labelling is non-empty. -/
theorem report_ch_deviation (inp : Input α) (orc : Oracles α) (logT thr : α) (biased : Bool)
    (hK : 0 < inp.K) (hT : 0 < inp.T) (limit : Nat) (hl : 1 ≤ limit)
    (init : List Nat) (o : MainLoop.Outcome (St α)) (h : run inp orc limit init = .ok o)
    (hne : ∀ k, k < inp.K → Repop.members o.final.labels k ≠ []) :
    (report inp orc logT thr biased o).ch =
      Numeric.chSpec inp.T inp.K inp.d (finalMembers o.final) (finalMeans inp o.final) inp.data +
        ((inp.T : α) * Numeric.sqDist inp.d (Numeric.centroid inp.T inp.data)
            (fun _ => Numeric.scalarMean inp.T inp.d inp.data)
          / Numeric.within inp.K inp.d (finalMembers o.final) (finalMeans inp o.final) inp.data)
        * (((inp.T : α) - (inp.K : α)) / ((inp.K : α) - 1)) := by
  obtain ⟨hlen, hlt⟩ := final_labels_valid inp orc hK hT hl h
  have := Numeric.chPinned_deviation_of_labels o.final.labels inp.K inp.d inp.data
    (by rw [hlen]; exact hT) hlt hne
  rwa [hlen] at this

/-- non-vacuity: a concrete two-round run over ℚ whose report has a non-trivial labelling. -/
example :
    let inp : Input Rat := ⟨4, 1, 2, 1, fun p _ => [0, 1, 10, 11].getD p 0, [1, 1, 1, 1], 1/2, 0⟩
    let orc : Oracles Rat := ⟨fun _ _ _ _ => 1, fun _ _ => 0, fun _ _ => 0, fun _ => [], fun _ _ _ => []⟩
    (fit inp orc 1 0 false 5 [0, 0, 1, 1]).toOption.map (fun r => (r.labels, r.rounds, r.agg.all.length))
      = some ([0, 0, 1, 1], 2, 4) := by
  decide +kernel

end FastTicc.Final
