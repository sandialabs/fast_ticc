/-
Property C03 — every MRF is a finite, symmetric, positive-definite precision matrix
(exact-arithmetic skeleton; IEEE cancellation is exhibited by running the same definitions
at `Float` and by scale sweeps on the implementation).
Property theorems only; helper lemmas live in `FastTicc/Proofs/Admm.lean`.
-/
import FastTicc.Model.Numeric
import FastTicc.Proofs.Admm
import Mathlib.Analysis.Real.Sqrt

namespace FastTicc.Numeric

/-- the eigenvalues the X-update assigns are strictly positive for every real `d` and `ρ > 0`. -/
theorem eig_pos (rho d : ℝ) (hrho : 0 < rho) : 0 < eigPinned Real.sqrt rho d := by
  exact Aux.eig_pos rho d hrho

/-- the repaired (cancellation-free) form is the same real number. -/
theorem eig_forms_equal (rho d : ℝ) (hrho : 0 < rho) :
    eigRepaired Real.sqrt rho d = eigPinned Real.sqrt rho d := by
  exact Aux.eig_forms_equal rho d hrho

theorem eig_repaired_pos (rho d : ℝ) (hrho : 0 < rho) : 0 < eigRepaired Real.sqrt rho d := by
  rw [eig_forms_equal rho d hrho]
  exact eig_pos rho d hrho

/-- the denominator of the repaired form never vanishes. -/
theorem eig_repaired_denominator_pos (rho d : ℝ) (hrho : 0 < rho) (hd : d < 0) :
    0 < Real.sqrt (d * d + ((4 : ℕ) : ℝ) * rho) - d := by
  have := Aux.sqrt_sub_pos rho d hrho
  push_cast
  exact this

/-- stationarity of the scalar prox: with `e` the new eigenvalue, `ρ e − 1/e = d`
(the gradient of `−log e + (ρ/2)(e − a)²`-type terms vanishes). -/
theorem eig_stationary (rho d : ℝ) (hrho : 0 < rho) :
    rho * eigPinned Real.sqrt rho d - 1 / eigPinned Real.sqrt rho d = d := by
  rw [one_div]
  exact Aux.eig_stationary rho d hrho

section filter
variable {α : Type} [Field α] [LinearOrder α] [IsStrictOrderedRing α]

/-- covariance floor: no returned entry has magnitude strictly between 0 and eps … -/
theorem floor_filter_no_small (eps x : α) (heps : 0 ≤ eps) :
    ¬ (0 < |floorFilter eps x| ∧ |floorFilter eps x| < eps) := by
  unfold floorFilter
  split_ifs with h
  · rw [abs_zero]
    exact fun h0 => lt_irrefl _ h0.1
  · exact fun h2 => h ⟨(abs_lt.1 h2.2).2, (abs_lt.1 h2.2).1⟩

/-- … every entry of magnitude ≥ eps is exactly what the optimiser produced … -/
theorem floor_filter_keeps_large (eps x : α) (h : eps ≤ |x|) : floorFilter eps x = x := by
  unfold floorFilter
  rw [if_neg]
  rintro ⟨h1, h2⟩
  exact absurd (abs_lt.2 ⟨h2, h1⟩) (not_lt.2 h)

/-- … every output is either the input or zero … -/
theorem floor_filter_id_or_zero (eps x : α) : floorFilter eps x = x ∨ floorFilter eps x = 0 := by
  unfold floorFilter
  split_ifs
  · exact Or.inr rfl
  · exact Or.inl rfl

/-- … and with no floor requested (eps = 0) the filter is the identity. -/
theorem floor_filter_zero (x : α) : floorFilter 0 x = x := by
  unfold floorFilter
  rw [if_neg]
  rintro ⟨h1, h2⟩
  rw [neg_zero] at h2
  exact lt_asymm h1 h2
end filter

/-- non-vacuity. -/
example : floorFilter (1/2 : ℚ) (1/4) = 0 ∧ floorFilter (1/2 : ℚ) (-1/2) = -1/2 ∧
    floorFilter (1/2 : ℚ) (3) = 3 := by
  decide +kernel

end FastTicc.Numeric
