/-
C02, the clause "it always stops within its budget" — what a theorem can carry of it.

Scaled-form ADMM for `min f(X) + g(Z)` subject to `X = Z` over a real inner-product space (for TICC: symmetric
matrices with the Frobenius inner product, `f = -log det + tr(S ·)` on the positive-definite cone, `g = ‖λ∘·‖₁` on the
block-Toeplitz subspace).  Proved here, for ARBITRARY convex `f`, `g` and any run whose updates are minimisers:
the Lyapunov decrease of every sweep, summability of the squared residuals, convergence of both residuals to zero
and an EXPLICIT sweep count after which the stopping rule has fired (`stopping_rule_fires`).  This is exact
arithmetic: rounding and the concrete budget of 1000 sweeps stay outside the theorem (DESIGN 5.C02).
-/
import FastTicc.Proofs.LogDet
import Mathlib.LinearAlgebra.Matrix.Trace
import Mathlib.Analysis.InnerProductSpace.Basic
import Mathlib.Analysis.Convex.Function
import Mathlib.Topology.Algebra.InfiniteSum.Real
import Mathlib.Tactic.Linarith
import Mathlib.Tactic.LinearCombination

open scoped RealInnerProductSpace

namespace FastTicc.AdmmConv

variable {E : Type*} [NormedAddCommGroup E] [InnerProductSpace ℝ E]

theorem nonneg_of_forall_small (A B : ℝ) (h : ∀ t : ℝ, 0 < t → t ≤ 1 → 0 ≤ A + t * B) : 0 ≤ A := by
  have hlim : Filter.Tendsto (fun t : ℝ => A + t * B) (nhdsWithin 0 (Set.Ioi 0)) (nhds (A + 0 * B)) :=
    ((continuous_const.add (continuous_id.mul continuous_const)).tendsto 0).mono_left nhdsWithin_le_nhds
  rw [zero_mul, add_zero] at hlim
  exact ge_of_tendsto hlim (by filter_upwards [Ioc_mem_nhdsGT one_pos] with t ht using h t ht.1 ht.2)

/-- **prox characterisation**: a minimiser over a convex set `C` of `f + (ρ/2)‖· - v‖²`, `f` convex on `C`,
satisfies the variational inequality `f x - f p + ρ ⟪p - v, x - p⟫ ≥ 0` for every `x ∈ C`. -/
theorem prox_variational {f : E → ℝ} {C : Set E} (hf : ConvexOn ℝ C f) {ρ : ℝ} (hρ : 0 < ρ) {v p : E}
    (hp : p ∈ C) (hmin : ∀ x ∈ C, f p + ρ / 2 * ‖p - v‖ ^ 2 ≤ f x + ρ / 2 * ‖x - v‖ ^ 2) :
    ∀ x ∈ C, 0 ≤ f x - f p + ρ * ⟪p - v, x - p⟫ := by
  intro x hx
  apply nonneg_of_forall_small _ (ρ / 2 * ‖x - p‖ ^ 2)
  intro t ht0 ht1
  have hconv : f ((1 - t) • p + t • x) ≤ (1 - t) * f p + t * f x :=
    hf.2 hp hx (sub_nonneg.2 ht1) ht0.le (sub_add_cancel 1 t)
  have hm := hmin _ (hf.1 hp hx (sub_nonneg.2 ht1) ht0.le (sub_add_cancel 1 t))
  have hpt : (1 - t) • p + t • x - v = (p - v) + t • (x - p) := by
    rw [sub_smul, one_smul, smul_sub]; abel
  rw [hpt, norm_add_sq_real, norm_smul, inner_smul_right, Real.norm_of_nonneg ht0.le] at hm
  -- minimality at the point `p + t (x - p)`, with `f` there bounded by convexity, is `t` times the claim
  have key : 0 ≤ t * (f x - f p + ρ * ⟪p - v, x - p⟫ + t * (ρ / 2 * ‖x - p‖ ^ 2)) := by
    linear_combination hm + hconv
  exact nonneg_of_mul_nonneg_right key ht0

/-- one sweep of scaled-form ADMM for `min f(x) + g(z)` s.t. `x = z`, described by what each update
guarantees (its variational inequality), plus the dual update. -/
structure Sweep (f g : E → ℝ) (Cf Cg : Set E) (ρ : ℝ) (z u x' z' u' : E) : Prop where
  x_mem : x' ∈ Cf
  z_mem : z' ∈ Cg
  x_opt : ∀ x ∈ Cf, 0 ≤ f x - f x' + ρ * ⟪x' - z + u, x - x'⟫
  z_opt : ∀ w ∈ Cg, 0 ≤ g w - g z' - ρ * ⟪x' - z' + u, w - z'⟫
  u_upd : u' = u + x' - z'

/-- after a sweep `ρ u'` is a subgradient of `g` at `z'` (the Z-update's condition, read through the dual update). -/
theorem Sweep.z_opt_dual {f g : E → ℝ} {Cf Cg : Set E} {ρ : ℝ} {z u x' z' u' : E}
    (hs : Sweep f g Cf Cg ρ z u x' z' u') : ∀ w ∈ Cg, 0 ≤ g w - g z' - ρ * ⟪u', w - z'⟫ := by
  -- `u' = u + x' - z' = x' - z' + u`
  rw [hs.u_upd, add_sub_assoc, add_comm u]
  exact hs.z_opt

/-- **the two updates of the code are a `Sweep`**: an X-update that minimises `f + (ρ/2)‖· - Z + U‖²` over `Cf`
(C02 `xUpdateMatrix_stationary` + convexity), a Z-update that minimises `g + (ρ/2)‖X' - · + U‖²` over `Cg`
(class by class: C02 `soft_threshold_minimises`), and `U' = U + X' - Z'`. -/
theorem sweep_of_minimisers {f g : E → ℝ} {Cf Cg : Set E} (hf : ConvexOn ℝ Cf f) (hg : ConvexOn ℝ Cg g)
    {ρ : ℝ} (hρ : 0 < ρ) {z u x' z' u' : E}
    (hx : x' ∈ Cf) (hxmin : ∀ y ∈ Cf, f x' + ρ / 2 * ‖x' - (z - u)‖ ^ 2 ≤ f y + ρ / 2 * ‖y - (z - u)‖ ^ 2)
    (hz : z' ∈ Cg) (hzmin : ∀ w ∈ Cg, g z' + ρ / 2 * ‖z' - (x' + u)‖ ^ 2 ≤ g w + ρ / 2 * ‖w - (x' + u)‖ ^ 2)
    (hu : u' = u + x' - z') : Sweep f g Cf Cg ρ z u x' z' u' := by
  refine ⟨hx, hz, ?_, ?_, hu⟩
  · intro y hy
    have := prox_variational hf hρ hx hxmin y hy
    rwa [← sub_add] at this
  · intro w hw
    have := prox_variational hg hρ hz hzmin w hw
    -- `z' - (x' + u) = -(x' - z' + u)`
    rwa [← neg_sub _ z', add_sub_right_comm, inner_neg_left, mul_neg, ← sub_eq_add_neg] at this

/-- a saddle point of the Lagrangian in scaled form: `x* = z*`, `-ρ u* ∈ ∂f(x*)`, `ρ u* ∈ ∂g(z*)`. -/
structure Saddle (f g : E → ℝ) (Cf Cg : Set E) (ρ : ℝ) (zs us : E) : Prop where
  mem_f : zs ∈ Cf
  mem_g : zs ∈ Cg
  f_opt : ∀ x ∈ Cf, 0 ≤ f x - f zs + ρ * ⟪us, x - zs⟫
  g_opt : ∀ w ∈ Cg, 0 ≤ g w - g zs - ρ * ⟪us, w - zs⟫

/-- subgradients are monotone: if `ρ v ∈ ∂φ(p)` and `ρ w ∈ ∂φ(q)` then `⟪v - w, p - q⟫ ≥ 0`. -/
theorem subgradient_monotone {φ : E → ℝ} {ρ : ℝ} (hρ : 0 < ρ) {p q v w : E}
    (hp : 0 ≤ φ q - φ p - ρ * ⟪v, q - p⟫) (hq : 0 ≤ φ p - φ q - ρ * ⟪w, p - q⟫) :
    0 ≤ ⟪v - w, p - q⟫ := by
  rw [← neg_sub p q, inner_neg_right] at hp
  rw [inner_sub_left]
  have : 0 ≤ ρ * (⟪v, p - q⟫ - ⟪w, p - q⟫) := by linear_combination hp + hq
  exact nonneg_of_mul_nonneg_right this hρ

/-- the norm identity behind the Lyapunov decrease: the right side minus the left is `-2 (⟪A, r⟫ + ⟪B, d⟫)`, twice the
sum of the three inner products assumed non-negative. -/
theorem lyapunov_algebra (A B r d : E) (h1 : 0 ≤ ⟪-(A + d), r + B⟫) (h2 : 0 ≤ ⟪A, B⟫) (h3 : 0 ≤ ⟪r, d⟫) :
    ‖A‖ ^ 2 + ‖B‖ ^ 2 ≤ ‖A - r‖ ^ 2 + ‖B - d‖ ^ 2 - ‖r‖ ^ 2 - ‖d‖ ^ 2 := by
  rw [norm_sub_sq_real, norm_sub_sq_real]
  rw [inner_neg_left, inner_add_left, inner_add_right, inner_add_right, real_inner_comm r d,
    real_inner_comm B d] at h1
  linear_combination 2 * (h1 + h2 + h3)

/-- **the Lyapunov decrease of one sweep** (Boyd et al. 2011, appendix A, inequality A.3, for the consensus
constraint `x = z`): with `V = ‖u - u*‖² + ‖z - z*‖²`,
`V(next) ≤ V(now) - ‖x' - z'‖² - ‖z' - z‖²`. -/
theorem lyapunov_step {f g : E → ℝ} {Cf Cg : Set E} {ρ : ℝ} (hρ : 0 < ρ) {z u x' z' u' zs us : E}
    (hs : Sweep f g Cf Cg ρ z u x' z' u') (hsad : Saddle f g Cf Cg ρ zs us)
    (hz : z ∈ Cg) (hzprev : ∀ w ∈ Cg, 0 ≤ g w - g z - ρ * ⟪u, w - z⟫) :
    ‖u' - us‖ ^ 2 + ‖z' - zs‖ ^ 2 ≤ ‖u - us‖ ^ 2 + ‖z - zs‖ ^ 2 - ‖x' - z'‖ ^ 2 - ‖z' - z‖ ^ 2 := by
  obtain ⟨hsf, hsg, hfo, hgo⟩ := hsad
  have hzo := hs.z_opt_dual
  have hu := hs.u_upd
  -- monotonicity of `∂f` between `x'` and `x*` (there the subgradients are `-ρ(x' - z + u)` and `-ρ u*`),
  -- of `∂g` between `z'` and `z*`, and of `∂g` between `z'` and `z`
  have m1 : 0 ≤ ⟪-(x' - z + u) - -us, x' - zs⟫ :=
    subgradient_monotone (φ := f) hρ (by rw [inner_neg_left, mul_neg, sub_neg_eq_add]; exact hs.x_opt zs hsf)
      (by rw [inner_neg_left, mul_neg, sub_neg_eq_add]; exact hfo x' hs.x_mem)
  have m2 : 0 ≤ ⟪u' - us, z' - zs⟫ := subgradient_monotone hρ (hzo zs hsg) (hgo z' hs.z_mem)
  have m3 : 0 ≤ ⟪u' - u, z' - z⟫ := subgradient_monotone hρ (hzo z hz) (hzprev z' hs.z_mem)
  -- in terms of `A = u' - u*`, `B = z' - z*`, `r = x' - z'`, `d = z' - z`
  have e1 : -(x' - z + u) - -us = -((u' - us) + (z' - z)) := by rw [hu]; abel
  have e2 : x' - zs = (x' - z') + (z' - zs) := (sub_add_sub_cancel x' z' zs).symm
  have e3 : u' - u = x' - z' := by rw [hu, add_sub_assoc, add_sub_cancel_left]
  have e4 : u - us = (u' - us) - (x' - z') := by rw [hu]; abel
  have e5 : z - zs = (z' - zs) - (z' - z) := (sub_sub_sub_cancel_left zs z z').symm
  rw [e1, e2] at m1
  rw [e3] at m3
  rw [e4, e5]
  exact lyapunov_algebra _ _ _ _ m1 m2 m3

/-- an ADMM run from `(z 0, u 0)`: every sweep is a `Sweep`, and the initial pair already satisfies the
optimality condition a Z-update leaves behind (in the code `z 0 = u 0 = 0` and `g = ‖λ∘·‖₁ ≥ 0 = g 0`). -/
structure Run (f g : E → ℝ) (Cf Cg : Set E) (ρ : ℝ) (x z u : ℕ → E) : Prop where
  sweep : ∀ k, Sweep f g Cf Cg ρ (z k) (u k) (x (k + 1)) (z (k + 1)) (u (k + 1))
  z0_mem : z 0 ∈ Cg
  z0_opt : ∀ w ∈ Cg, 0 ≤ g w - g (z 0) - ρ * ⟪u 0, w - z 0⟫

theorem Run.z_inv {f g : E → ℝ} {Cf Cg : Set E} {ρ : ℝ} {x z u : ℕ → E} (h : Run f g Cf Cg ρ x z u) :
    ∀ k, z k ∈ Cg ∧ ∀ w ∈ Cg, 0 ≤ g w - g (z k) - ρ * ⟪u k, w - z k⟫
  | 0 => ⟨h.z0_mem, h.z0_opt⟩
  | k + 1 => ⟨(h.sweep k).z_mem, (h.sweep k).z_opt_dual⟩

/-- the Lyapunov function of the run -/
noncomputable def V (z u : ℕ → E) (zs us : E) (k : ℕ) : ℝ := ‖u k - us‖ ^ 2 + ‖z k - zs‖ ^ 2

/-- primal residual `x - z` and the change of the consensus variable (the dual residual is `ρ` times it) -/
noncomputable def res (x z : ℕ → E) (k : ℕ) : ℝ := ‖x (k + 1) - z (k + 1)‖ ^ 2 + ‖z (k + 1) - z k‖ ^ 2

theorem Run.lyapunov {f g : E → ℝ} {Cf Cg : Set E} {ρ : ℝ} (hρ : 0 < ρ) {x z u : ℕ → E} {zs us : E}
    (h : Run f g Cf Cg ρ x z u) (hsad : Saddle f g Cf Cg ρ zs us) (k : ℕ) :
    V z u zs us (k + 1) ≤ V z u zs us k - res x z k := by
  unfold V res
  rw [← sub_sub]
  exact lyapunov_step hρ (h.sweep k) hsad (h.z_inv k).1 (h.z_inv k).2

/-- the squared residuals of ALL sweeps together are bounded by the initial distance to the saddle point -/
theorem Run.sum_res_le {f g : E → ℝ} {Cf Cg : Set E} {ρ : ℝ} (hρ : 0 < ρ) {x z u : ℕ → E} {zs us : E}
    (h : Run f g Cf Cg ρ x z u) (hsad : Saddle f g Cf Cg ρ zs us) (n : ℕ) :
    (Finset.range n).sum (res x z) ≤ V z u zs us 0 - V z u zs us n := by
  induction n with
  | zero => simp
  | succ k ih =>
    rw [Finset.sum_range_succ]
    have := h.lyapunov hρ hsad k
    linarith

theorem V_nonneg (z u : ℕ → E) (zs us : E) (k : ℕ) : 0 ≤ V z u zs us k := by unfold V; positivity

theorem res_nonneg (x z : ℕ → E) (k : ℕ) : 0 ≤ res x z k := by unfold res; positivity

/-- **exact-arithmetic ADMM converges**: primal residual and consensus change tend to zero. -/
theorem Run.res_tendsto_zero {f g : E → ℝ} {Cf Cg : Set E} {ρ : ℝ} (hρ : 0 < ρ) {x z u : ℕ → E} {zs us : E}
    (h : Run f g Cf Cg ρ x z u) (hsad : Saddle f g Cf Cg ρ zs us) :
    Filter.Tendsto (res x z) Filter.atTop (nhds 0) := by
  have hsum : Summable (res x z) :=
    summable_of_sum_range_le (res_nonneg x z) (fun n => by
      have := h.sum_res_le hρ hsad n
      have := V_nonneg z u zs us n
      linarith)
  exact hsum.tendsto_atTop_zero

/-- **an explicit sweep bound**: within any `n` sweeps with `n · ε² > V 0` there is one whose primal residual
and consensus change are both below `ε` (pigeonhole on `sum_res_le`). -/
theorem Run.small_residual_within {f g : E → ℝ} {Cf Cg : Set E} {ρ : ℝ} (hρ : 0 < ρ) {x z u : ℕ → E} {zs us : E}
    (h : Run f g Cf Cg ρ x z u) (hsad : Saddle f g Cf Cg ρ zs us) (ε : ℝ) (hε : 0 < ε) (n : ℕ)
    (hn : V z u zs us 0 < n * ε ^ 2) :
    ∃ k < n, ‖x (k + 1) - z (k + 1)‖ < ε ∧ ‖z (k + 1) - z k‖ < ε := by
  have hsum : (Finset.range n).sum (res x z) < (Finset.range n).sum (fun _ => ε ^ 2) := by
    rw [Finset.sum_const, Finset.card_range, nsmul_eq_mul]
    exact (h.sum_res_le hρ hsad n).trans_lt ((sub_le_self _ (V_nonneg z u zs us n)).trans_lt hn)
  obtain ⟨k, hk, hlt⟩ := Finset.exists_lt_of_sum_lt hsum
  rw [res] at hlt
  exact ⟨k, Finset.mem_range.1 hk,
    lt_of_pow_lt_pow_left₀ 2 hε.le (lt_of_le_of_lt (le_add_of_nonneg_right (sq_nonneg _)) hlt),
    lt_of_pow_lt_pow_left₀ 2 hε.le (lt_of_le_of_lt (le_add_of_nonneg_left (sq_nonneg _)) hlt)⟩

/-- **the stopping rule fires** (exact arithmetic): for any positive primal and dual tolerances the test
`‖x - z‖ ≤ τp ∧ ρ‖z - z_old‖ ≤ τd` holds at some sweep among the first `n`, as soon as
`n · min(τp, τd/ρ)² > ‖u₀ - u*‖² + ‖z₀ - z*‖²`. -/
theorem Run.stopping_rule_fires {f g : E → ℝ} {Cf Cg : Set E} {ρ : ℝ} (hρ : 0 < ρ) {x z u : ℕ → E} {zs us : E}
    (h : Run f g Cf Cg ρ x z u) (hsad : Saddle f g Cf Cg ρ zs us) (τp τd : ℝ) (hp : 0 < τp) (hd : 0 < τd) (n : ℕ)
    (hn : V z u zs us 0 < n * (min τp (τd / ρ)) ^ 2) :
    ∃ k < n, ‖x (k + 1) - z (k + 1)‖ ≤ τp ∧ ρ * ‖z (k + 1) - z k‖ ≤ τd := by
  have hε : 0 < min τp (τd / ρ) := lt_min hp (div_pos hd hρ)
  obtain ⟨k, hk, h1, h2⟩ := h.small_residual_within hρ hsad _ hε n hn
  refine ⟨k, hk, (h1.trans_le (min_le_left _ _)).le, ?_⟩
  have : ‖z (k + 1) - z k‖ < τd / ρ := h2.trans_le (min_le_right _ _)
  exact (mul_comm _ _).trans_le ((lt_div_iff₀ hρ).mp this).le

/-- the hypotheses are satisfiable (trivial instance: zero objective, the run that never moves) -/
example : Run (fun _ : ℝ => 0) (fun _ => 0) Set.univ Set.univ 1 (fun _ => 0) (fun _ => 0) (fun _ => 0)
    ∧ Saddle (fun _ : ℝ => 0) (fun _ => 0) Set.univ Set.univ 1 0 0 := by
  refine ⟨⟨fun k => ⟨trivial, trivial, ?_, ?_, ?_⟩, trivial, ?_⟩, ⟨trivial, trivial, ?_, ?_⟩⟩ <;> simp

end FastTicc.AdmmConv

/-! ### the concrete X-update satisfies its hypothesis -/

namespace FastTicc.AdmmConv
open Matrix
variable {n : Type} [Fintype n] [DecidableEq n]

/-- the smooth part of the objective: `f X = -log det X + tr(S X)` -/
noncomputable def smoothObj (S X : Matrix n n ℝ) : ℝ := -Real.log X.det + (S * X).trace

/-- **the X-update's hypothesis of `Sweep` holds for the code's X-update** (Frobenius inner product `⟪A, B⟫ = tr(Aᵀ B)`):
if `X` is positive definite, symmetric and stationary for the X sub-problem, `ρ X - X⁻¹ = ρ (Z - U) - S`
(C02 `xUpdateMatrix_stationary`, `xUpdateMatrix_posDef`), then for every positive definite `Y`
`f Y - f X + ρ tr((X - Z + U)ᵀ (Y - X)) ≥ 0`. -/
theorem xUpdate_variational (S Z U X Y : Matrix n n ℝ) (rho : ℝ) (hX : X.PosDef) (hY : Y.PosDef)
    (hsym : Xᵀ = X) (hZU : (Z - U)ᵀ = Z - U)
    (hstat : rho • X - X⁻¹ = rho • (Z - U) - S) :
    0 ≤ smoothObj S Y - smoothObj S X + rho * ((X - Z + U)ᵀ * (Y - X)).trace := by
  have hc := FastTicc.LogDet.log_det_concave hX hY
  have e1 : (X - Z + U)ᵀ = X - (Z - U) := by rw [sub_add, transpose_sub, hsym, hZU]
  have e2 : rho • (X - (Z - U)) = X⁻¹ - S := by
    rw [smul_sub]
    exact sub_eq_sub_iff_sub_eq_sub.1 hstat
  unfold smoothObj
  rw [e1, ← smul_eq_mul rho, ← trace_smul, ← Matrix.smul_mul, e2, Matrix.sub_mul, trace_sub,
    Matrix.mul_sub S, trace_sub]
  linear_combination hc

end FastTicc.AdmmConv
