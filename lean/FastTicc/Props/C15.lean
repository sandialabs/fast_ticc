/-
Property C15 — the parallel likelihood loop writes disjoint cells (scheduling skeleton).
Property theorems only; helper lemmas live in `FastTicc/Proofs/MainLoop.lean`.
The kernels' reference semantics are the models of C01 and C05; Numba/LLVM is trusted base.
-/
import FastTicc.Model.MainLoop
import FastTicc.Proofs.MainLoop

namespace FastTicc.MainLoop

/-- a table filled by any interleaving of threads over the flat cell range, each cell written
(at least) once with a value that depends only on the cell, equals the sequential table. -/
theorem parallel_fill_schedule_independent {β : Type} (g : Nat → β) (init : List β) (order : List Nat)
    (hall : ∀ i, i < init.length → i ∈ order) (hin : ∀ i ∈ order, i < init.length) :
    fill g init order = (List.range init.length).map g := by
  -- `hin` is not needed: an out-of-range write is a no-op of `List.set`.
  have _ := hin
  exact foldl_set_all g init order hall

/-- in particular the result does not depend on the thread count / chunking: any two
permutations of the cell range give the same table. -/
theorem parallel_fill_any_two_orders {β : Type} (g : Nat → β) (init : List β) (o₁ o₂ : List Nat)
    (h₁ : o₁.Perm (List.range init.length)) (h₂ : o₂.Perm (List.range init.length)) :
    fill g init o₁ = fill g init o₂ :=
  foldl_set_perm g init h₁ h₂

/-- non-vacuity. -/
example : fill (fun i => i * i) [0, 0, 0, 0] [2, 0, 3, 1] = [0, 1, 4, 9] := by
  decide

end FastTicc.MainLoop
