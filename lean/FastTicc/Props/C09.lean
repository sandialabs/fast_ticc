/-
Property C09 — main loop: bounded, stops only at a fixed point, returns what it scored.
The loop theorems are read off the one characterisation of a successful run, `run_ok` / `run_last`
(`FastTicc/Proofs/MainLoop.lean`).
Quantified over all phase functions (which may fail), all projections `labels`, all limits.
-/
import FastTicc.Model.MainLoop
import FastTicc.Proofs.MainLoop

namespace FastTicc.MainLoop

variable {σ ε L : Type} [DecidableEq L] (P : Phases σ ε) (labels : σ → L)

/-- the source's repopulation guard is `current_iteration > 0`; its round calls the four phases in
the order repopulate, statistics, optimise, relabel with the repopulation under that guard; its
loop is `for … in range(iteration_limit)` (all re-extracted from the AST on every run). -/
theorem constants_tie : Constants.repopAfterRound = 0 ∧ Constants.phaseOrder = [1, 2, 3, 4] ∧
    Constants.repopGuarded = 1 ∧ Constants.loopOverLimit = 1 := by
  exact ⟨rfl, rfl, rfl, rfl⟩

/-- the round the model executes is TRANSLATED from the source's phase order on every run
(`MainLoop.round` folds over `Constants.phaseOrder`); it is the round this property describes. -/
theorem round_translated_eq_spec (i : Nat) (s : σ) : round P i s = roundSpec P i s :=
  round_eq_spec P i s

/-- round 0 is stats → opt → relabel; every later round is repop → stats → opt → relabel,
each phase applied to the previous phase's output. -/
theorem round_shape (s : σ) :
    round P 0 s = (P.stats s >>= P.opt >>= P.relabel) ∧
    ∀ i, 0 < i → round P i s = (P.repop s >>= P.stats >>= P.opt >>= P.relabel) := by
  refine ⟨?_, fun i hi => ?_⟩
  · rw [round_eq, if_neg (Nat.lt_irrefl 0), bind_assoc]
    rfl
  · rw [round_eq, if_pos hi, bind_assoc, bind_assoc]

/-- at least one and at most `limit` rounds. -/
theorem rounds_bounds (limit : Nat) (hl : 1 ≤ limit) (s0 : σ) (r : Outcome σ)
    (h : run P labels limit s0 = .ok r) : 1 ≤ r.rounds ∧ r.rounds ≤ limit := by
  obtain ⟨_, hn, T⟩ := run_ok P labels h
  rw [← hn]
  exact ⟨List.length_pos_iff.2 (T.ne_nil (Nat.ne_of_gt hl)), T.le⟩

/-- one recorded state per round, and what is returned is the state of the last round. -/
theorem history_length (limit : Nat) (s0 : σ) (r : Outcome σ)
    (h : run P labels limit s0 = .ok r) : r.history.length = r.rounds := by
  exact (run_ok P labels h).2.1

theorem returns_last_round (limit : Nat) (hl : 1 ≤ limit) (s0 : σ) (r : Outcome σ)
    (h : run P labels limit s0 = .ok r) : r.history.getLast? = some r.final := by
  rw [List.getLast?_eq_getElem?, (run_ok P labels h).2.1]
  exact (run_last P labels h (Nat.ne_of_gt hl)).2.1

/-- every round is `round j` applied to the output of the previous round (round 0 to the
initial state): the returned state is `relabel (opt (stats (…)))` of the *same* round. -/
theorem history_chain (limit : Nat) (s0 : σ) (r : Outcome σ)
    (h : run P labels limit s0 = .ok r) (j : Nat) (hj : j < r.rounds) :
    ∃ sPrev sj, (if j = 0 then some s0 else r.history[j - 1]?) = some sPrev ∧
      r.history[j]? = some sj ∧ round P j sPrev = .ok sj := by
  obtain ⟨_, hn, T⟩ := run_ok P labels h
  obtain ⟨a, b, ha, hb, hab, _⟩ := T.step j (hn ▸ hj)
  rw [List.getElem?_cons] at ha
  rw [Nat.zero_add] at hab
  exact ⟨a, b, ha, hb, hab⟩

/-- it stops before the limit only when the last two rounds produced identical labellings
(so at least two rounds ran: the initial labelling is never compared). -/
theorem early_stop_only_at_repeat (limit : Nat) (s0 : σ) (r : Outcome σ)
    (h : run P labels limit s0 = .ok r) (hlt : r.rounds < limit) :
    2 ≤ r.rounds ∧ ∃ a b, r.history[r.rounds - 2]? = some a ∧ r.history[r.rounds - 1]? = some b ∧
      labels a = labels b := by
  obtain ⟨_, hb, a, ha, _, hearly⟩ := run_last P labels h (Nat.ne_of_gt (Nat.zero_lt_of_lt hlt))
  obtain ⟨h0, hl⟩ := hearly hlt
  rw [List.getElem?_cons, if_neg (Nat.ne_of_gt h0)] at ha
  exact ⟨by omega, a, r.final, ha, hb, hl⟩

/-- … and it does stop at the first such repeat: no earlier pair of consecutive rounds agreed. -/
theorem stops_at_first_repeat (limit : Nat) (s0 : σ) (r : Outcome σ)
    (h : run P labels limit s0 = .ok r) (j : Nat) (hj1 : 1 ≤ j) (hj : j + 1 < r.rounds) :
    ∀ a b, r.history[j - 1]? = some a → r.history[j]? = some b → labels a ≠ labels b := by
  intro a b ha hb hl
  obtain ⟨_, hn, T⟩ := run_ok P labels h
  obtain ⟨a', b', ha', hb', _, hstop, _⟩ := T.step j (hn ▸ Nat.lt_of_succ_lt hj)
  rw [List.getElem?_cons, if_neg (Nat.ne_of_gt hj1), ha] at ha'
  rw [hb] at hb'
  cases ha'
  cases hb'
  exact absurd (hn ▸ hstop (Nat.add_pos_right 0 hj1) hl) (Nat.ne_of_lt hj)

/-- with a limit of at least 2 the loop never stops after the first round. -/
theorem first_round_never_compared (limit : Nat) (hl : 2 ≤ limit) (s0 : σ) (r : Outcome σ)
    (h : run P labels limit s0 = .ok r) : 2 ≤ r.rounds := by
  rcases Nat.lt_or_ge r.rounds limit with hlt | hge
  · exact (early_stop_only_at_repeat P labels limit s0 r h hlt).1
  · exact Nat.le_trans hl hge

/-- on early stop the returned labelling is a fixed point of fit-then-relabel: the last round,
applied to the previous round's state, reproduced that state's labelling. -/
theorem fixed_point_on_early_stop (limit : Nat) (s0 : σ) (r : Outcome σ)
    (h : run P labels limit s0 = .ok r) (hlt : r.rounds < limit) :
    ∃ sPrev, r.history[r.rounds - 2]? = some sPrev ∧
      round P (r.rounds - 1) sPrev = .ok r.final ∧ labels r.final = labels sPrev := by
  obtain ⟨_, _, a, ha, hab, hearly⟩ := run_last P labels h (Nat.ne_of_gt (Nat.zero_lt_of_lt hlt))
  obtain ⟨h0, hl⟩ := hearly hlt
  rw [List.getElem?_cons, if_neg (Nat.ne_of_gt h0)] at ha
  exact ⟨a, ha, hab, hl.symm⟩

/-- non-vacuity: a scripted run over `Nat` states that converges in round 3 of at most 5. -/
example :
    let P : Phases Nat Unit := ⟨fun s => pure s, fun s => pure s, fun s => pure s,
                                 fun s => pure (min (s + 1) 2)⟩
    (run P (fun s => s) 5 0).toOption.map (fun r => (r.final, r.rounds, r.history))
      = some (2, 3, [1, 2, 2]) := by
  decide

end FastTicc.MainLoop
