/-
Property C06 — result fields are mutually consistent (cost and likelihood accounting).
Property theorems and the definitions they are stated with; helper lemmas live in `FastTicc/Proofs/Result.lean` (lists) and
`FastTicc/Proofs/ResultCost.lean` (cost tables).
-/
import FastTicc.Model.Result
import FastTicc.Model.Viterbi
import FastTicc.Proofs.Viterbi
import FastTicc.Proofs.Result
import FastTicc.Proofs.ResultCost
import FastTicc.Props.C01
import Mathlib.Algebra.Order.Field.Basic
import Mathlib.Data.List.Nodup

namespace FastTicc.Result

-- the statements keep the section's algebraic context even where a proof needs less of it
set_option linter.unusedSectionVars false

section
variable {α : Type} [Field α] [LinearOrder α] [IsStrictOrderedRing α]

/-- a point is labelled when its label is a cluster index (not the `-1` marker). -/
def labelled (K : Nat) (l : Int) : Bool := decide (0 ≤ l ∧ l < (K : Int))

/-- one list per cluster. -/
theorem clusterLists_length (K : Nat) (labels : List Int) (ll : List α) :
    (clusterLists K labels ll).length = K := by
  simp [clusterLists]

/-- cluster `k`'s list holds exactly the values of the points labelled `k`, in point order. -/
theorem cluster_list_exact (K k : Nat) (hk : k < K) (labels : List Int) (ll : List α) :
    (clusterLists K labels ll)[k]? =
      some (((labels.zip ll).filter (fun p => p.1 == (k : Int))).map (·.2)) := by
  simp [clusterLists, List.getElem?_map, List.getElem?_range hk]

theorem labelled_eq_contains (K : Nat) (l : Int) :
    labelled K l = ((List.range K).map Int.ofNat).contains l := by
  rw [labelled, List.contains_eq_mem]
  congr 1
  simp only [List.mem_map, List.mem_range, Int.ofNat_eq_natCast, eq_iff_iff]
  exact ⟨fun h => ⟨l.toNat, (Int.toNat_lt h.1).mpr h.2, Int.toNat_of_nonneg h.1⟩,
    fun ⟨k, hk, e⟩ => e ▸ ⟨Int.natCast_nonneg k, Int.ofNat_lt.mpr hk⟩⟩

/-- the per-point list holds the labelled points' values (grouped by cluster: a permutation of
them) … -/
theorem all_ll_perm (K : Nat) (labels : List Int) (ll : List α) :
    (allLL K labels ll).Perm (((labels.zip ll).filter (fun p => labelled K p.1)).map (·.2)) := by
  have hks : ((List.range K).map Int.ofNat).Nodup :=
    List.nodup_range.map (fun _ _ => Int.ofNat.inj)
  have h := (flatMap_filter_perm (fun p : Int × α => p.1) (labels.zip ll) _ hks).map (·.2)
  rw [List.flatMap_map, List.map_flatMap] at h
  simp only [labelled_eq_contains]
  exact h

/-- … so it has exactly one entry per labelled point. -/
theorem all_ll_length (K : Nat) (labels : List Int) (ll : List α) (h : labels.length = ll.length) :
    (allLL K labels ll).length = (labels.filter (labelled K)).length := by
  rw [(all_ll_perm K labels ll).length_eq, List.length_map]
  exact filter_zip_fst_length (labelled K) labels ll h

/-- sum, mean and median depend only on the multiset of entries, so the overall statistics are
those of exactly the labelled points' values, whatever the grouping order. -/
theorem sum_perm (l₁ l₂ : List α) (h : l₁.Perm l₂) : sum l₁ = sum l₂ := by
  rw [sum_eq_sum, sum_eq_sum]
  exact h.sum_eq

theorem mean_perm (l₁ l₂ : List α) (h : l₁.Perm l₂) : mean l₁ = mean l₂ := by
  unfold mean
  rw [sum_perm l₁ l₂ h, h.length_eq]

theorem median_perm (l₁ l₂ : List α) (h : l₁.Perm l₂) : median l₁ = median l₂ := by
  unfold median
  rw [mergeSort_eq_of_perm l₁ l₂ h]

theorem overall_stats (K : Nat) (labels : List Int) (ll : List α) :
    let vals := ((labels.zip ll).filter (fun p => labelled K p.1)).map (·.2)
    (assemble K labels ll).total = sum vals ∧
    (assemble K labels ll).mean = mean vals ∧
    (assemble K labels ll).median = median vals := by
  intro vals
  have hp : (allLL K labels ll).Perm vals := all_ll_perm K labels ll
  exact ⟨sum_perm _ _ hp, mean_perm _ _ hp, median_perm _ _ hp⟩

/-- each cluster's mean and median are taken over exactly the points labelled with that
cluster, and are 0 if it has none. -/
theorem cluster_stats (K k : Nat) (hk : k < K) (labels : List Int) (ll : List α) :
    let vals := ((labels.zip ll).filter (fun p => p.1 == (k : Int))).map (·.2)
    (assemble K labels ll).clusterMean[k]? = some (if vals.isEmpty then 0 else mean vals) ∧
    (assemble K labels ll).clusterMedian[k]? = some (if vals.isEmpty then 0 else median vals) := by
  intro vals
  have hc := cluster_list_exact K k hk labels ll
  constructor
  · show (clusterMeans K labels ll)[k]? = _
    unfold clusterMeans
    rw [List.getElem?_map, hc]
    rfl
  · show (clusterMedians K labels ll)[k]? = _
    unfold clusterMedians
    rw [List.getElem?_map, hc]
    rfl

/-- the pinned behaviour (phantom `0` for an empty cluster) breaks the length clause. -/
theorem phantom_zero_breaks_length :
    ∃ (K : Nat) (labels : List Int) (ll : List Rat), labels.length = ll.length ∧
      (allLLPinned K labels ll).length ≠ (labels.filter (labelled K)).length ∧
      (allLL K labels ll).length = (labels.filter (labelled K)).length :=
  ⟨2, [0, -1], [1, 5], rfl, by decide, by decide⟩
end

section cost
open FastTicc.Viterbi
variable {α : Type} [Field α] [LinearOrder α] [IsStrictOrderedRing α]

/-- sum of each point's own log-likelihood under the label it received. -/
def ownLL (tab : List (Nat → α)) (ls : List Nat) : α :=
  (List.zipWith (fun r l => r l) tab ls).foldl (· + ·) 0

/-- cost identity: with assignment cost = −log-likelihood, the cost the labelling step reports is
minus the sum of the chosen log-likelihoods plus the switching cost of every consecutive pair
that carries different labels (priced by that pair's own beta). -/
theorem cost_identity (K : Nat) (hK : 0 < K) (tab : List (Nat → α)) (betas : List α)
    (hne : tab ≠ []) (hlen : betas.length = tab.length) (hb : ∀ b ∈ betas, 0 ≤ b) :
    let pts := withVectorBeta (tab.map (fun r c => - r c)) betas
    (viterbi K pts).2 = - ownLL tab (viterbi K pts).1 + switchCost pts (viterbi K pts).1 := by
  intro pts
  have hpts : pts ≠ [] := by
    apply List.ne_nil_of_length_pos
    simp only [pts, withVectorBeta, List.length_zip, List.length_map, hlen, Nat.min_self]
    exact List.length_pos_iff.mpr hne
  have hbn : BetaNonneg pts := withVectorBeta_nonneg _ betas hb
  rw [viterbi_cost_is_cost_of_path K hK pts hpts hbn, totalCost]
  congr 1
  have hrows : pts.map Prod.fst = tab.map (fun r c => - r c) :=
    List.map_fst_zip (by simp [hlen])
  rw [assignCost_eq_sum, hrows, List.zipWith_map_left, ownLL, ← List.sum_eq_foldl, List.sum_neg,
    List.map_zipWith]

/-- with a masked switching cost `beta * mask_i` (`mask_i ∈ {0,1}`), only pairs whose mask is 1
are priced: the switching term is `beta` times the number of unmasked consecutive pairs with
different labels.  (With C07's mask: within-series pairs only.) -/
theorem switch_cost_masked (rows : List (Nat → α)) (beta : α) (mask : List Nat) (ls : List Nat)
    (hm : ∀ x ∈ mask, x = 0 ∨ x = 1) (hlen : mask.length = rows.length) (hl : ls.length = rows.length) :
    switchCost (withVectorBeta rows (mask.map (fun (x : Nat) => beta * (x : α)))) ls =
      beta * (((List.range (ls.length - 1)).filter
        (fun i => mask.getD i 0 == 1 && ls.getD i 0 != ls.getD (i + 1) 0)).length : α) := by
  rw [switchCost_eq_switchSum (fun i => beta * ((mask.getD i 0 : Nat) : α)), Final.switchSum,
    ← sum_map_ite_const]
  · exact congrArg List.sum (List.map_congr_left fun i _ =>
      masked_pair beta _ _ _ (getD_of_forall_mem hm (Or.inl rfl) i))
  · intro i hi
    have hi' : i < mask.length := by rw [hlen, ← hl]; exact Nat.lt_of_succ_lt hi
    -- the second components of the zipped table are the `beta * mask` list
    rw [← List.getElem?_map, withVectorBeta, List.map_snd_zip (by rw [List.length_map, hlen]),
      List.getElem?_map, List.getD_eq_getElem?_getD, List.getElem?_eq_getElem hi']
    rfl
end cost

/-- non-vacuity. -/
example : (assemble 3 [-1, 0, 2, 0, 2, -1] ([9, 1, 5, 3, 6, 9] : List Rat)).all = [1, 3, 5, 6] ∧
    (assemble 3 [-1, 0, 2, 0, 2, -1] ([9, 1, 5, 3, 6, 9] : List Rat)).clusterMean = [2, 0, 11/2] := by
  decide +kernel

end FastTicc.Result
