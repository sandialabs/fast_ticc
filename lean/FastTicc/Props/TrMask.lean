/-
TRANSLATED CODE = MODEL (label_switching_cost_template of data_preparation.py, property C07).  `Generated/Kernels.lean` is rewritten from the Python AST of
`$REPO/src/fast_ticc` by `harness/py2lean.py` on every run; the theorems below are about those generated
definitions and prove, for ALL inputs, that they compute what the hand-written model computes - the model the
property theorems are about.  They only keep checking while the source still says what the model says.
-/
import FastTicc.Generated.Kernels
import FastTicc.Proofs.Translated
import FastTicc.Proofs.Stack
open FastTicc FastTicc.PyLemmas

namespace FastTicc.Translated

theorem label_switching_cost_template_eq {α : Type} [Zero α] [One α] (lens : List Nat) (hpos : ∀ x ∈ lens, 0 < x) :
    (Gen.label_switching_cost_template (α := α) (lens.map (fun (x : Nat) => (x : Int)))).toList
      = (Stack.maskTemplate lens).map (fun b => if b = 0 then (0 : α) else 1) := by
  unfold Gen.label_switching_cost_template Stack.maskTemplate
  rw [sum_natCast, accumulate_natCast]
  simp only [Py.Arr1.toList, Py.Arr1.setMany, Py.Arr1.const, Py.popLast, Int.toNat_natCast, List.map_map]
  apply List.map_congr_left
  intro k hk
  -- every cumulative length is positive, so `endpoint - 1` is the same in `int` and in `Nat`
  have key : List.map (Py.idx lens.sum ∘ fun endpoint => endpoint - 1)
        (List.map (fun (e : Nat) => (e : Int)) (Stack.accumulate lens)).dropLast
      = List.map (fun x => x - 1) (Stack.accumulate lens).dropLast := by
    rw [← List.map_dropLast, List.map_map]
    apply List.map_congr_left
    intro e he
    have he0 : 0 < e := by
      cases lens with
      | nil => cases he
      | cons y ys =>
        exact Nat.lt_of_lt_of_le (hpos y List.mem_cons_self)
          (Stack.le_of_mem_accumulate y ys e (List.dropLast_subset _ he))
    simp only [Function.comp]
    rw [← Nat.cast_pred he0, idx_nat]
  simp only [Function.comp] at key ⊢
  rw [key]
  split <;> simp

end FastTicc.Translated
