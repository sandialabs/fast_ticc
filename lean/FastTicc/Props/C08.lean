/-
Property C08 — cluster repopulation conserves points and never starves a donor.
Property theorems and the definitions they are stated with; helper lemmas live in `FastTicc/Proofs/Repop.lean`.
Quantified over: every labelling with labels `< K`, every `m ≥ 1`, every spread
function into a linear order, every admissible `random.sample` oracle (`ValidPick`),
every iteration order of the needy set (`order.Perm (needy K labels)`).
-/
import FastTicc.Model.Repop
import FastTicc.Proofs.Repop
import Mathlib.Order.Defs.LinearOrder

namespace FastTicc.Repop

def AllBelow (K : Nat) (labels : List Nat) : Prop := ∀ l ∈ labels, l < K

-- several statements carry hypotheses (`hK`, `hn`) that their proofs do not need
set_option linter.unusedVariables false

/-- total number of refills the eligible donors can serve: `Σ (⌊size/m⌋ - 1)`. -/
def capacity {α : Type} [LT α] [DecidableLT α] (spread : Nat → α) (K m : Nat) (labels : List Nat) : Nat :=
  ((rankedDonors spread K m labels).map (fun d => size labels d / m - 1)).sum

section
variable {α : Type} [LT α] [DecidableLT α]
variable (K m : Nat) (spread : Nat → α) (pick : Nat → Nat → List Nat) (order labels labels' : List Nat)

/-- no cluster under 2 points ⇒ the very same labelling comes back. -/
theorem repop_noop (h : needy K labels = []) :
    repopulate K m spread pick order labels = some labels := by
  simp [repopulate, h]

/-- error ⇔ more needy clusters than the donors' total capacity. -/
theorem repop_error_iff (hm : 1 ≤ m) (hK : AllBelow K labels) (hp : ValidPick m pick)
    (ho : order.Perm (needy K labels)) :
    repopulate K m spread pick order labels = none ↔
      capacity spread K m labels < (needy K labels).length := by
  rw [repopulate_eq spread m pick ho, refill_none_iff hm hp (inv_init spread hm ho),
    length_donorSeq, ho.length_eq]
  exact Iff.rfl

/-- in particular: when no cluster holds at least `2m` points and some cluster is needy, it raises. -/
theorem repop_error_of_no_donor (hm : 1 ≤ m) (hK : AllBelow K labels) (hp : ValidPick m pick)
    (ho : order.Perm (needy K labels)) (hn : needy K labels ≠ [])
    (hd : ∀ k, k < K → size labels k < 2 * m) :
    repopulate K m spread pick order labels = none := by
  rw [repop_error_iff K m spread pick order labels hm hK hp ho]
  have hnil : rankedDonors spread K m labels = [] := by
    refine List.eq_nil_iff_forall_not_mem.mpr (fun d hmem => ?_)
    have h1 := (mem_rankedDonors spread K m labels d).mp hmem
    have h2 := hd d h1.1
    omega
  simp only [capacity, hnil, List.map_nil, List.sum_nil]
  exact List.length_pos_iff.mpr hn

/-- every point still has exactly one label in `[0,K)`. -/
theorem repop_conserves (hm : 1 ≤ m) (hK : AllBelow K labels) (hp : ValidPick m pick)
    (ho : order.Perm (needy K labels))
    (h : repopulate K m spread pick order labels = some labels') :
    labels'.length = labels.length ∧ AllBelow K labels' := by
  exact repopulate_valid K m spread pick order labels labels'
    (fun e he => ((mem_needy K labels e).mp (ho.mem_iff.mp he)).1) hK h

/-- every cluster that had fewer than 2 points gains exactly `m` (so has at least `m`). -/
theorem repop_recipients (hm : 1 ≤ m) (hK : AllBelow K labels) (hp : ValidPick m pick)
    (ho : order.Perm (needy K labels))
    (h : repopulate K m spread pick order labels = some labels') :
    ∀ e ∈ needy K labels, size labels' e = size labels e + m := by
  have M := repopulate_moved spread hm hp ho h
  exact fun e he =>
    M.size_recipient (List.take_sublist _ _) (inv_init spread hm ho) (ho.mem_iff.mpr he)

/-- every cluster that gave points away had at least `2m` before, keeps at least `m`,
and gave a multiple of `m`. -/
theorem repop_donors (hm : 1 ≤ m) (hK : AllBelow K labels) (hp : ValidPick m pick)
    (ho : order.Perm (needy K labels))
    (h : repopulate K m spread pick order labels = some labels') :
    ∀ d, size labels' d < size labels d →
      2 * m ≤ size labels d ∧ m ≤ size labels' d ∧ ∃ t, size labels d = size labels' d + t * m := by
  have M := repopulate_moved spread hm hp ho h
  have hI := inv_init spread hm ho
  intro d hlt
  -- a cluster that shrank is neither a recipient nor a bystander
  by_cases hdo : d ∈ order
  · rw [M.size_recipient (List.take_sublist _ _) hI hdo] at hlt
    exact absurd hlt (Nat.not_lt.mpr (Nat.le_add_right _ _))
  · by_cases hdr : d ∈ rankedDonors spread K m labels
    · obtain ⟨h1, ht⟩ := M.size_candidate (List.take_sublist _ _) hI hm hdr
      exact ⟨hI.big d hdr, h1, _, ht⟩
    · rw [M.size_bystander (List.take_sublist _ _) hdo hdr] at hlt
      exact absurd hlt (Nat.lt_irrefl _)

/-- points move only from a donor (≥ 2m) into a previously under-populated cluster. -/
theorem repop_moves_only_donor_to_needy (hm : 1 ≤ m) (hK : AllBelow K labels)
    (hp : ValidPick m pick) (ho : order.Perm (needy K labels))
    (h : repopulate K m spread pick order labels = some labels') :
    ∀ i : Nat, labels'[i]? ≠ labels[i]? →
      ∃ a b, labels[i]? = some a ∧ labels'[i]? = some b ∧
        2 * m ≤ size labels a ∧ b ∈ needy K labels := by
  have M := repopulate_moved spread hm hp ho h
  intro i hi
  obtain ⟨a, b, ha, hb, had, hbo⟩ := M.pos i hi
  exact ⟨a, b, ha, hb, (inv_init spread hm ho).big a (mem_donorSeq (List.mem_of_mem_take had)),
    ho.mem_iff.mp hbo⟩

/-- all other clusters are untouched: a cluster that is not needy and did not shrink has
exactly its old member list. -/
theorem repop_bystanders_untouched (hm : 1 ≤ m) (hK : AllBelow K labels)
    (hp : ValidPick m pick) (ho : order.Perm (needy K labels))
    (h : repopulate K m spread pick order labels = some labels') :
    ∀ k, k ∉ needy K labels → size labels k ≤ size labels' k →
      members labels' k = members labels k := by
  have M := repopulate_moved spread hm hp ho h
  intro k hk hle
  have hko : k ∉ order := fun h => hk (ho.mem_iff.mp h)
  -- `k` received nothing and did not shrink, so it gave nothing either
  have hkd : k ∉ (donorSeq m (rankedDonors spread K m labels) labels).take order.length := by
    intro hd
    have := M.sizes k
    rw [List.count_eq_zero_of_not_mem hko] at this
    have := Nat.le_mul_of_pos_right m (List.count_pos_iff.mpr hd)
    omega
  unfold members
  rw [M.len]
  apply List.filter_congr
  intro i _
  by_cases heq : labels'[i]? = labels[i]?
  · rw [heq]
  · -- a point that moved belongs to `k` neither before nor after
    obtain ⟨a, b, ha, hb, had, hbo⟩ := M.pos i heq
    have h1 : (some b == some k) = false := by simpa using fun h : b = k => hko (h ▸ hbo)
    have h2 : (some a == some k) = false := by simpa using fun h : a = k => hkd (h ▸ had)
    rw [ha, hb, h1, h2]

/-- the `pop()` branch of `_find_point_donor` is dead when every candidate has ≥ 2m points … -/
theorem findDonor_dead_branch (sz : Nat → Nat) (rem : List Nat) (h : ∀ d ∈ rem, 2 * m ≤ sz d) :
    findDonor sz m rem =
      match rem with
      | [] => none
      | d :: rest => if sz d < 3 * m then some (d, rest) else some (d, d :: rest) := by
  cases rem with
  | nil => exact findDonor_nil sz m
  | cons d rest => rw [findDonor_cons, if_pos (h d List.mem_cons_self)]

/-- … and that is an invariant of the recipient loop: whenever a donor is looked for, every
remaining candidate still has at least `2m` points (so the dead branch is never reached
from `repopulate_empty_clusters`).  Stated on the list of donors actually used. -/
theorem repop_used_donors_eligible (hm : 1 ≤ m) (hK : AllBelow K labels) (hp : ValidPick m pick)
    (ho : order.Perm (needy K labels)) :
    ∀ d ∈ donorsUsed K m spread pick order labels, d ∈ rankedDonors spread K m labels := by
  intro d hd
  rw [donorsUsed_eq spread m pick ho, refillDonors_eq hm hp (inv_init spread hm ho)] at hd
  exact mem_donorSeq (List.mem_of_mem_take hd)

/-- donors are taken in ranking order, each repeated to capacity, exactly `m` points per refill. -/
theorem repop_donor_order (hm : 1 ≤ m) (hK : AllBelow K labels) (hp : ValidPick m pick)
    (ho : order.Perm (needy K labels)) (hn : needy K labels ≠ []) :
    donorsUsed K m spread pick order labels =
      (((rankedDonors spread K m labels).flatMap
          (fun d => List.replicate (size labels d / m - 1) d)).take order.length) := by
  rw [donorsUsed_eq spread m pick ho, refillDonors_eq hm hp (inv_init spread hm ho)]
  rfl

/-- a recipient gained `m`, a donor keeps `m`, anybody else keeps what it had. -/
theorem repop_size_ge (hm : 1 ≤ m) (hK : AllBelow K labels) (hp : ValidPick m pick)
    (ho : order.Perm (needy K labels))
    (h : repopulate K m spread pick order labels = some labels') :
    ∀ k, k < K → m ≤ size labels' k ∨ 2 ≤ size labels' k := by
  intro k hkK
  by_cases hn : k ∈ needy K labels
  · rw [repop_recipients K m spread pick order labels labels' hm hK hp ho h k hn]
    exact Or.inl (Nat.le_add_left m _)
  · have h2 : ¬ size labels k < 2 := fun h => hn ((mem_needy K labels k).mpr ⟨hkK, h⟩)
    by_cases hlt : size labels' k < size labels k
    · exact Or.inl (repop_donors K m spread pick order labels labels' hm hK hp ho h k hlt).2.1
    · exact Or.inr (Nat.le_trans (Nat.le_of_not_lt h2) (Nat.le_of_not_lt hlt))

/-- for `m ≥ 2` the result needs no further repopulation (consecutive iterations). -/
theorem repop_idempotent (hm : 2 ≤ m) (hK : AllBelow K labels) (hp : ValidPick m pick)
    (ho : order.Perm (needy K labels))
    (h : repopulate K m spread pick order labels = some labels') :
    needy K labels' = [] := by
  refine List.eq_nil_iff_forall_not_mem.mpr (fun k hk => ?_)
  obtain ⟨hkK, hlt⟩ := (mem_needy K labels' k).mp hk
  have := repop_size_ge K m spread pick order labels labels' (by omega) hK hp ho h k hkK
  omega
end

section ranking
variable {α : Type} [LinearOrder α]

/-- the ranking: exactly the clusters with ≥ 2m points, each once, by decreasing spread,
ties in index order (Python's stable `sorted(..., reverse=True)`). -/
theorem rankedDonors_spec (spread : Nat → α) (K m : Nat) (labels : List Nat) :
    (∀ d, d ∈ rankedDonors spread K m labels ↔ d < K ∧ 2 * m ≤ size labels d) ∧
    (rankedDonors spread K m labels).Nodup ∧
    (rankedDonors spread K m labels).Pairwise
      (fun a b => spread b < spread a ∨ (spread a = spread b ∧ a < b)) := by
  exact ⟨mem_rankedDonors spread K m labels, rankedDonors_nodup spread K m labels,
    rankedDonors_sorted spread K m labels⟩
end ranking

/-- non-vacuity: a concrete case with two needy clusters served by two donors in spread order. -/
example :
    let labels := [0,0,0,0,0,0,0, 1,1,1,1, 2, 4,4]
    let spread : Nat → Int := fun k => [5, 9, 0, 0, 1].getD k 0
    let pick : Nat → Nat → List Nat := fun _ _ => [0, 1]
    needy 5 labels = [2, 3] ∧ rankedDonors spread 5 2 labels = [1, 0] ∧
    repopulate 5 2 spread pick [2, 3] labels = some [3,3,0,0,0,0,0, 2,2,1,1, 2, 4,4] := by
  intro labels spread pick
  have h1 : needy 5 labels = [2, 3] := by decide
  have h2 : rankedDonors spread 5 2 labels = [1, 0] := by decide
  refine ⟨h1, h2, ?_⟩
  unfold repopulate
  rw [if_neg (by rw [h1]; decide), h2]
  -- first refill: donor 1 (size 4 < 3·2, retired afterwards) gives points 7, 8 to cluster 2
  have f1 : findDonor (size labels) 2 [1, 0] = some (1, [0]) := by
    rw [findDonor_cons]; decide
  rw [refill, f1]
  have e1 : movePoints labels 1 2 (pick 0 (size labels 1)) =
      [0,0,0,0,0,0,0, 2,2,1,1, 2, 4,4] := by decide
  simp only [e1]
  -- second refill: donor 0 (size 7 ≥ 3·2, kept) gives points 0, 1 to cluster 3
  have f2 : findDonor (size [0,0,0,0,0,0,0, 2,2,1,1, 2, 4,4]) 2 [0] = some (0, [0]) := by
    rw [findDonor_cons]; decide
  rw [refill, f2]
  simp only [refill]
  decide

end FastTicc.Repop
