/-
Property C16 — Bayesian information criterion matches its definition (counting and
accumulation skeleton; `log` values are parameters, floating-point range is explored).
Property theorems and the definitions they are stated with; helper lemmas live in `FastTicc/Proofs/Result.lean`.
-/
import FastTicc.Model.Result
import FastTicc.Proofs.Result
import Mathlib.Algebra.Order.Field.Basic

namespace FastTicc.Result

-- the statements keep the section's algebraic context even where a proof needs less of it
set_option linter.unusedSectionVars false

/-- the source's threshold is `2e-5`. -/
theorem constants_tie_bic :
    Constants.bicThresholdNum = 1 ∧ Constants.bicThresholdDen = 50000 :=
  ⟨rfl, rfl⟩

/-- the label of every maximal run of equal consecutive labels, in order. -/
def runHeads (labels : List Nat) : List Nat :=
  (labels.splitBy (· == ·)).filterMap List.head?

/-- P adds, for every maximal run of equal consecutive labels, that cluster's parameter count. -/
theorem runsParams_eq_sum_over_maximal_runs (params : Nat → Nat) (labels : List Nat) :
    runsParams params labels = ((runHeads labels).map params).sum := by
  cases labels with
  | nil => rfl
  | cons a l =>
    unfold runHeads
    rw [splitBy_heads_cons]
    simp [runsParams, runsParamsAux, runsParamsAux_some]

/-- a single run counts its cluster once, however long it is. -/
theorem runs_single (params : Nat → Nat) (k n : Nat) (hn : 0 < n) :
    runsParams params (List.replicate n k) = params k := by
  obtain ⟨m, rfl⟩ : ∃ m, n = m + 1 := ⟨n - 1, by omega⟩
  simp [runsParams, List.replicate_succ, runsParamsAux, runsParamsAux_replicate]

/-- a cluster no point carries contributes nothing. -/
theorem runs_unused_cluster_ignored (params params' : Nat → Nat) (labels : List Nat)
    (h : ∀ l ∈ labels, params l = params' l) : runsParams params labels = runsParams params' labels :=
  runsParamsAux_congr params params' none labels h

/-- a label that returns after an interruption is counted again (one count per run, not per cluster). -/
theorem runs_counted_per_run (params : Nat → Nat) (a b : Nat) (hab : a ≠ b) :
    runsParams params [a, b, a] = params a + params b + params a := by
  simp [runsParams, runsParamsAux, hab, Ne.symm hab, Nat.add_assoc]

section
variable {α : Type} [Field α] [LinearOrder α] [IsStrictOrderedRing α]

/-- the entry count uses strict `|x| > threshold`. -/
theorem nnz_row (t : α) (row : List α) :
    nnz t [row] = (row.filter (fun x => decide (t < |x|))).length := by
  simp [nnz, absv_eq_abs]

theorem nnz_append (t : α) (A B : List (List α)) : nnz t (A ++ B) = nnz t A + nnz t B := by
  simp only [nnz, ← List.sum_eq_foldl, List.map_append, List.sum_append]

/-- the value is `P·ln T − 2·Σ_k (ln det Θ_k − tr(Θ_k S_k))`. -/
theorem bic_eq (P : Nat) (logT : α) (logdets : List α) (thetas Ss : List (List (List α))) :
    bic P logT (modLle logdets thetas Ss) =
      (P : α) * logT - 2 * (((List.range logdets.length).map
        (fun k => logdets.getD k 0 - traceMul (thetas.getD k []) (Ss.getD k []))).sum) := by
  simp only [bic, modLle, ← List.sum_eq_foldl, Nat.cast_ofNat]

/-- `tr(ΘS) = Σ_ij Θ_ij S_ji`, so for symmetric `S` it is the entrywise inner product. -/
theorem traceMul_two (a b c d e f g h : α) :
    traceMul [[a, b], [c, d]] [[e, f], [g, h]] = a * e + b * g + (c * f + d * h) := by
  -- what the two nested left folds evaluate to
  show 0 + (0 + a * e + b * g) + (0 + c * f + d * h) = _
  simp only [zero_add]
end

/-- non-vacuity. -/
example : runsParams (fun k => [10, 20, 30].getD k 0) [0,0,1,1,0,2,2] = 70 ∧
    runHeads [0,0,1,1,0,2,2] = [0,1,0,2] ∧
    nnz (1/50000 : Rat) [[1/100000, -1/10], [1/50000, 3]] = 2 := by
  refine ⟨by decide, by decide, ?_⟩
  decide +kernel

end FastTicc.Result
