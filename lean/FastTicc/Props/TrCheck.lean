/-
TRANSLATED CODE = MODEL (`check_convergence` of admm/solver.py, property C02: the stopping rule).  `Generated/Kernels.lean` is
rewritten from the Python AST of `$REPO/src/fast_ticc` by `harness/py2lean.py` on every run; the theorem below is about that
generated definition.  The Euclidean norm and `math.sqrt(x.size)` are function parameters (`normOf1`, `sqrtOfInt`); the local
alias `norm = np.linalg.norm` is resolved; the literal `0.0001` is the exact rational value of that double; `a <= b` on the
abstract scalar type is `not (b < a)`; the `if args.verbose:` block only logs.
-/
import FastTicc.Generated.Kernels
import FastTicc.Model.Numeric
import FastTicc.Props.TrAdmmLoop
import Mathlib.Algebra.Order.Field.Basic
open FastTicc

namespace FastTicc.Translated
section
variable {α : Type} [Field α] [LinearOrder α]

/-- the additive slack of the rule: the double the source spells `0.0001`, exactly -/
def slackOf (α : Type) [Field α] : α := ((7378697629483821 : Int) : α) / ((73786976294838206464 : Int) : α)

/-- **the translated stopping rule is `Numeric.stopRule`** on the five norms the source computes - `‖x‖`, `‖z‖`, `‖ρu‖`,
`‖x − z‖`, `‖ρ(z − z_old)‖` - with `sqrt(len x)`, the two tolerances of the argument bundle and the slack `0.0001`. -/
theorem check_convergence_eq (normOf1 : Py.Arr1 α → α) (sqrtOfInt : Int → α) (args : Py.ADMMArgs α) (u x z zOld : Py.Arr1 α) :
    (Gen.check_convergence normOf1 sqrtOfInt args u x z zOld).1
      = Numeric.stopRule (sqrtOfInt (Py.Arr1.size x)) args.absolute_tolerance args.relative_tolerance (slackOf α)
          (normOf1 x) (normOf1 z) (normOf1 (Py.Arr1.scale args.rho u)) (normOf1 (Py.Arr1.sub x z))
          (normOf1 (Py.Arr1.scale args.rho (Py.Arr1.sub z zOld))) := by
  unfold Gen.check_convergence Numeric.stopRule Numeric.pyMax Py.max2 slackOf
  rfl

/-- what the rule hands on besides its verdict: the two residuals and the two tolerances it compared -/
theorem check_convergence_parts (normOf1 : Py.Arr1 α → α) (sqrtOfInt : Int → α) (args : Py.ADMMArgs α) (u x z zOld : Py.Arr1 α) :
    (Gen.check_convergence normOf1 sqrtOfInt args u x z zOld).2.1 = normOf1 (Py.Arr1.sub x z) ∧
    (Gen.check_convergence normOf1 sqrtOfInt args u x z zOld).2.2.2.1
      = normOf1 (Py.Arr1.scale args.rho (Py.Arr1.sub z zOld)) := ⟨rfl, rfl⟩

omit [LinearOrder α] in
/-- the translated X update: the proximal operator of the log-det term (a function parameter: an eigendecomposition) applied to
the covariance, the RE-INFLATED `z − u` (the translated `reinflate_matrix`, `Props/TrCompress.lean`) and the step parameter -/
theorem admm_update_x_eq (xProx : Py.Arr2 α → Py.Arr2 α → α → Py.Arr1 α) (args : Py.ADMMArgs α) (u z : Py.Arr1 α)
    (S : Py.Arr2 α) :
    Gen.admm_update_x xProx args u z S = xProx S (Gen.reinflate_matrix (Py.Arr1.sub z u)) args.rho := rfl

/-- **the whole translated solver**: the translated loop run with the translated stopping rule returns what
`MainLoop.admmRun` returns with `Numeric.stopRule` as its rule (no step-parameter hook). -/
theorem run_with_translated_rule
    (xUpdate : Py.ADMMArgs α → Py.Arr1 α → Py.Arr1 α → Py.Arr2 α → Py.Arr1 α)
    (normOf1 : Py.Arr1 α → α) (sqrtOfInt : Int → α)
    (args : Py.ADMMArgs α) (S : Py.Arr2 α) (maxIter : Nat) (hmax : args.max_iterations = (maxIter : Int))
    (hcb : args.rho_update = none)
    (zf : Py.Arr1 α → Py.Arr1 α → Py.Arr1 α) (hz : ∀ u x, Gen.admm_update_z args u x = .ok (zf u x)) :
    Gen.run_admm_optimization xUpdate (Gen.check_convergence normOf1 sqrtOfInt) args S
      = .ok (MainLoop.admmRun (sweepOf xUpdate zf args S)
          (fun s' zOld => Numeric.stopRule (sqrtOfInt (Py.Arr1.size s'.x)) args.absolute_tolerance args.relative_tolerance
            (slackOf α) (normOf1 s'.x) (normOf1 s'.z) (normOf1 (Py.Arr1.scale args.rho s'.u))
            (normOf1 (Py.Arr1.sub s'.x s'.z)) (normOf1 (Py.Arr1.scale args.rho (Py.Arr1.sub s'.z zOld))))
          (fun s _ => s) maxIter
          (Py.Arr1.const (Py.intOfRat (Py.trueDiv ((args.window_size * args.num_data_series)
            * (args.window_size * args.num_data_series + 1)) 2)) (0 : α))).1 := by
  rw [run_admm_optimization_eq xUpdate (Gen.check_convergence normOf1 sqrtOfInt) args S maxIter hmax hcb zf hz]
  unfold stopOf
  simp only [check_convergence_eq]
end
end FastTicc.Translated
