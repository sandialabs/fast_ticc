/-
TRANSLATED CODE = MODEL (stack_training_data of data_preparation.py, property C10).  `Generated/Kernels.lean` is
rewritten from the Python AST of `$REPO/src/fast_ticc` by `harness/py2lean.py` on every run; the theorems below are about
those generated definitions and prove, for ALL inputs, that they compute what the hand-written model computes - the model
the property theorems are about.  They only keep checking while the source still says what the model says.
-/
import FastTicc.Generated.Kernels
import FastTicc.Proofs.Translated
import FastTicc.Proofs.ListLemmas
import FastTicc.Model.Stack
open FastTicc FastTicc.PyLemmas

namespace FastTicc.Translated
section
variable {α : Type} [Zero α] [Add α] [Sub α] [LT α] [DecidableLT α]

/-- the cell the stacking writes at `(i, c)`: row `i + c / N` of the data, column `c % N` -/
def stackCell (data : Py.Arr2 α) (i c : Nat) : α := data.get (i + c / data.cols) (c % data.cols)

omit [Zero α] [Add α] [Sub α] [LT α] [DecidableLT α] in
theorem stackCell_block (data : Py.Arr2 α) (i j c : Nat) (h1 : j * data.cols ≤ c) (h2 : c < (j + 1) * data.cols) :
    stackCell data i c = data.get (i + j) (c - j * data.cols) := by
  unfold stackCell
  rw [Nat.div_eq_of_lt_le h1 h2, Nat.mod_eq_sub_div_mul, Nat.div_eq_of_lt_le h1 h2]

omit [Add α] [Sub α] [LT α] [DecidableLT α] in
theorem stack_training_data_table (data : Py.Arr2 α) (W : Nat) (hW : W ≤ data.rows + 1) :
    Gen.stack_training_data data (W : Int)
      = ⟨data.rows + 1 - W, data.cols * W,
          fun r c => if r < data.rows + 1 - W ∧ c < W * data.cols then stackCell data r c else 0⟩ := by
  unfold Gen.stack_training_data
  simp only [Py.Arr2.shape0, Py.Arr2.shape1]
  have e : (data.rows : Int) - (W : Int) + 1 = ((data.rows + 1 - W : Nat) : Int) := by omega
  rw [e, forEach_range, ← Nat.cast_mul, Py.Arr2.const, Int.toNat_natCast, Int.toNat_natCast]
  refine fill_rows (W * data.cols) (stackCell data) _ _ _ (fun i _ g => ?_)
  rw [forEach_range, foldl_range_eq (g := fun m => ⟨data.rows + 1 - W, data.cols * W,
    fun r c => if r = i ∧ c < m * data.cols then stackCell data i c else g r c⟩)]
  · simp only [Nat.zero_mul, Nat.not_lt_zero, and_false, if_false]
  · intro j hj
    -- the slice bounds `j * N`, `(j + 1) * N` are not clamped: they lie within the `N * W` columns
    have hle : (j + 1) * data.cols ≤ data.cols * W := by
      rw [Nat.mul_comm data.cols W]; exact Nat.mul_le_mul_right _ hj
    have hjle : j * data.cols ≤ (j + 1) * data.cols := Nat.mul_le_mul_right _ (Nat.le_succ j)
    simp only [Py.Arr2.setRowSlice, Py.Arr2.row, ← Nat.cast_mul, ← Nat.cast_add, ← Nat.cast_add_one,
      sliceBound_nat _ _ hle, sliceBound_nat _ _ (Nat.le_trans hjle hle), idx_nat]
    congr
    funext r c
    -- the columns below `(j + 1) * N` are those of block `j` and those below `j * N`
    have hcol : c < (j + 1) * data.cols ↔ j * data.cols ≤ c ∧ c < (j + 1) * data.cols ∨ c < j * data.cols := by
      omega
    exact ite_merge (by rw [← and_or_left, ← hcol]) (fun h => (stackCell_block data i j c h.2.1 h.2.2).symm)

/-- **the translated stacking, cell by cell**: `T - W + 1` rows of `N·W` columns, and cell `(i, c)` is
`data[i + c / N, c % N]` (which is `data[i + j, k]` for `c = j·N + k`). -/
theorem stack_training_data_cells (data : Py.Arr2 α) (W : Nat) (hW : W ≤ data.rows + 1) :
    (Gen.stack_training_data data (W : Int)).rows = data.rows + 1 - W ∧
    (Gen.stack_training_data data (W : Int)).cols = data.cols * W ∧
    ∀ i c, i < data.rows + 1 - W → c < data.cols * W →
      (Gen.stack_training_data data (W : Int)).get i c = stackCell data i c := by
  rw [stack_training_data_table data W hW]
  exact ⟨rfl, rfl, fun i c hi hc => if_pos ⟨hi, by rw [Nat.mul_comm]; exact hc⟩⟩


/-- **the translated stacking is the stacking model**: the rows of the returned array are `Stack.stack` of the rows
of the input, for every window `W ≤ T + 1` and every cell type. -/
theorem stack_training_data_eq (data : Py.Arr2 α) (W : Nat) (hW : W ≤ data.rows + 1) :
    (Gen.stack_training_data data (W : Int)).toLists = Stack.stack data.toLists W := by
  obtain ⟨h1, h2, h3⟩ := stack_training_data_cells data W hW
  unfold Py.Arr2.toLists Stack.stack
  rw [h1, h2]
  simp only [List.length_map, List.length_range]
  apply List.map_congr_left
  intro i hi
  have hi' : i < data.rows + 1 - W := List.mem_range.mp hi
  have hrow : (List.range (data.cols * W)).map ((Gen.stack_training_data data (W : Int)).get i)
      = (List.range (data.cols * W)).map (stackCell data i) := by
    apply List.map_congr_left
    intro c hc
    exact h3 i c hi' (List.mem_range.mp hc)
  rw [hrow, map_range_mul]
  unfold Stack.stackRow
  apply List.flatMap_congr
  intro j hj
  have hj' : j < W := List.mem_range.mp hj
  have hij : i + j < data.rows := by omega
  rw [getD_map_range _ _ hij]
  apply List.map_congr_left
  intro k hk
  have hk' : k < data.cols := List.mem_range.mp hk
  rw [stackCell_block data i j _ (Nat.le_add_right _ _) (by rw [Nat.succ_mul]; exact Nat.add_lt_add_left hk' _),
    Nat.add_sub_cancel_left]

end
end FastTicc.Translated
