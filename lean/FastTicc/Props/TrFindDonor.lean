/-
TRANSLATED CODE = MODEL (`_find_point_donor` of cluster_maintenance.py, property C08).  `Generated/Kernels.lean` is rewritten
from the Python AST of `$REPO/src/fast_ticc` by `harness/py2lean.py` on every run; the theorem below is about that generated
definition.  The `while` loop - whose body returns from two places and pops the LAST candidate when the FIRST is too small -
is `Py.whileRet` with the list of remaining donors as state and `len(remaining_donors) + 1` as fuel; running out of fuel would
be the error "LoopFuelExhausted", and the theorem shows the function never returns it.
-/
import FastTicc.Generated.Kernels
import FastTicc.Proofs.Translated
import FastTicc.Proofs.Repop
open FastTicc FastTicc.PyLemmas

namespace FastTicc.Translated
section
variable {α : Type} [Zero α] [Add α] [Sub α] [Mul α] [Div α] [LT α] [DecidableLT α] [IntCast α]

/-- the model state `_find_point_donor` reads: cluster `k` has `sz k` points -/
def donorModelOf (K m : Nat) (sz : Nat → Nat) (cov : Nat → Py.Arr2 α) : Py.DonorModel α :=
  ⟨(m : Int), (List.range K).map (fun (k : Nat) => ⟨((sz k : Nat) : Int), cov k⟩)⟩

/-- what the loop leaves behind, in the model's terms -/
def loopResult : Option (Nat × List Nat) → Sum (Int × List Int) (List Int)
  | some (d, rest) => Sum.inl ((d : Int), rest.map (fun (k : Nat) => (k : Int)))
  | none => Sum.inr []

omit [Zero α] [Add α] [Sub α] [Mul α] [Div α] [LT α] [DecidableLT α] [IntCast α] in
/-- `ok` is whatever the body needs to know of a candidate -/
theorem whileRet_findDonor (sz : Nat → Nat) (m : Nat) (ok : Nat → Prop) (cond : List Int → Bool)
    (body : List Int → Sum (Int × List Int) (List Int))
    (hcond : ∀ ids : List Nat, cond (ids.map (fun (k : Nat) => (k : Int))) = !ids.isEmpty)
    (hbody : ∀ d rest, ok d → body ((d :: rest).map (fun (k : Nat) => (k : Int)))
      = if 2 * m ≤ sz d then
          (if sz d < 3 * m then Sum.inl ((d : Int), rest.map (fun (k : Nat) => (k : Int)))
           else Sum.inl ((d : Int), (d :: rest).map (fun (k : Nat) => (k : Int))))
        else Sum.inr ((d :: rest).dropLast.map (fun (k : Nat) => (k : Int)))) :
    ∀ (fuel : Nat) (ids : List Nat), (∀ y ∈ ids, ok y) → ids.length < fuel →
      Py.whileRet fuel cond body (ids.map (fun (k : Nat) => (k : Int))) = some (loopResult (Repop.findDonor sz m ids)) := by
  intro fuel
  induction fuel with
  | zero => exact fun ids _ h => absurd h (Nat.not_lt_zero _)
  | succ f ih =>
    intro ids hok hlen
    unfold Py.whileRet
    rw [hcond]
    cases ids with
    | nil => rw [Repop.findDonor_nil]; rfl
    | cons d rest =>
      simp only [List.isEmpty_cons, Bool.not_false, if_true, hbody d rest (hok d List.mem_cons_self),
        Repop.findDonor_cons]
      -- body and model branch on the same two tests
      by_cases h2 : 2 * m ≤ sz d
      · rw [if_pos h2, if_pos h2]
        by_cases h3 : sz d < 3 * m
        · rw [if_pos h3, if_pos h3]; rfl
        · rw [if_neg h3, if_neg h3]; rfl
      · rw [if_neg h2, if_neg h2]
        refine ih _ (fun y hy => hok y (List.dropLast_subset _ hy)) ?_
        rw [List.length_dropLast, List.length_cons, Nat.add_sub_cancel]
        exact Nat.lt_of_succ_lt_succ hlen

/-- what `_find_point_donor` returns, in the model's terms: the `RuntimeError` is `none` -/
def findResult : Option (Nat × List Nat) → Except String (Int × List Int)
  | some (d, rest) => .ok ((d : Int), rest.map (fun (k : Nat) => (k : Int)))
  | none => .error "RuntimeError"

omit [Add α] [Sub α] [Mul α] [Div α] [LT α] [DecidableLT α] [IntCast α] in
/-- **the translated `_find_point_donor` is `Repop.findDonor`** - for every cluster count, minimum size, size function and list
of candidate ids below the cluster count: the same donor, the same list of remaining candidates (the first candidate retired
when it cannot donate twice, the LAST one dropped when the first is too small - the code's quirk, modelled literally),
`RuntimeError` exactly when the model has no donor, and never the fuel error. -/
theorem find_point_donor_eq (K m : Nat) (sz : Nat → Nat) (cov : Nat → Py.Arr2 α) (ids : List Nat) (hK : ∀ y ∈ ids, y < K) :
    Gen._find_point_donor (donorModelOf K m sz cov) (ids.map (fun (k : Nat) => (k : Int)))
      = findResult (Repop.findDonor sz m ids) := by
  -- the fuel is `len(remaining_donors) + 1`
  have hfuel : ids.length < (Py.len (ids.map (fun (k : Nat) => (k : Int))) + 1).toNat := by
    rw [Py.len, List.length_map, Int.toNat_natCast_add_one]
    exact Nat.lt_succ_self _
  rw [Gen._find_point_donor, whileRet_findDonor sz m (· < K) _ _ ?_ ?_ _ ids hK hfuel]
  · cases Repop.findDonor sz m ids <;> rfl
  · intro ids
    cases ids with
    | nil => rfl
    | cons d rest => exact decide_eq_true (Int.natCast_succ_pos _)
  · -- one pass of the generated body over a list that starts with candidate `d`
    intro d rest hd
    have hsz : (Py.getItem (donorModelOf K m sz cov).clusters (d : Int)).size = ((sz d : Nat) : Int) := by
      rw [donorModelOf, getItem_map_range _ K d hd]
    have hfirst : Py.getItem ((d :: rest).map (fun (k : Nat) => (k : Int))) (0 : Int) = (d : Int) := rfl
    -- the casts of `2 * m`, `3 * m` compute to `2 * ↑m`, `3 * ↑m`
    have h2 : ((sz d : Nat) : Int) ≥ 2 * (m : Int) ↔ 2 * m ≤ sz d := Int.ofNat_le (m := 2 * m)
    have h3 : ((sz d : Nat) : Int) < 3 * (m : Int) ↔ sz d < 3 * m := Int.ofNat_lt (m := 3 * m)
    simp only [hfirst, hsz, Py.popFirst, Py.popLast, List.map_dropLast]
    simp only [show (donorModelOf K m sz cov).min_cluster_size = (m : Int) from rfl, decide_eq_true_eq, h2, h3,
      List.map_cons, List.tail_cons]
end
end FastTicc.Translated
