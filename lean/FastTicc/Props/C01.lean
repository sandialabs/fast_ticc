/-
Property C01 — label assignment returns a globally minimum-cost label sequence.
Property theorems and the definitions they are stated with; helper lemmas live in `FastTicc/Proofs/Viterbi.lean`.
-/
import FastTicc.Model.Viterbi
import FastTicc.Proofs.Viterbi
import Mathlib.Algebra.Order.Group.Int
import Mathlib.Tactic.Abel  -- the ring structure of `Int`, through which the statements over `Int` below read their `0`

namespace FastTicc.Viterbi

variable {α : Type} [AddCommGroup α] [LinearOrder α] [IsOrderedAddMonoid α]

/-- a candidate labelling: one label `< K` per point. -/
def ValidLabels (K T : Nat) (q : List Nat) : Prop := q.length = T ∧ ∀ l ∈ q, l < K

/-- every per-pair switching cost is non-negative. -/
def BetaNonneg (pts : List ((Nat → α) × α)) : Prop := ∀ p ∈ pts, 0 ≤ p.2

/-- one label per point. -/
theorem viterbi_length (K : Nat) (pts : List ((Nat → α) × α)) (h : pts ≠ []) :
    (viterbi K pts).1.length = pts.length := by
  cases pts with
  | nil => exact absurd rfl h
  | cons p rest =>
    rw [viterbi_cons, List.length_cons, follow_length, back_snd_length]
    rfl

/-- every returned label is in `[0, K)`. -/
theorem viterbi_labels_in_range (K : Nat) (hK : 0 < K) (pts : List ((Nat → α) × α)) :
    ∀ l ∈ (viterbi K pts).1, l < K := by
  cases pts with
  | nil => simp [viterbi]
  | cons p rest =>
    rw [viterbi_cons]
    intro l hl
    rcases List.mem_cons.1 hl with rfl | hl
    · exact argmin_lt _ hK
    · exact follow_back_lt K hK (p :: rest) _ (argmin_lt _ hK) l hl

/-- the reported cost is the total cost of exactly the returned sequence.

The hypothesis `hb : BetaNonneg pts` was ADDED: without it the statement is false, see
`viterbi_cost_of_path_needs_nonneg_beta` below. -/
theorem viterbi_cost_is_cost_of_path (K : Nat) (hK : 0 < K)
    (pts : List ((Nat → α) × α)) (h : pts ≠ []) (hb : BetaNonneg pts) :
    (viterbi K pts).2 = totalCost pts (viterbi K pts).1 := by
  have _ := hK
  cases pts with
  | nil => exact absurd rfl h
  | cons p rest => exact back_cost_eq K p rest hb _

/-- with a negative switching cost the reported cost is not the cost of the returned
labelling (`K = 1`, two points, `beta = -1`: reported `-1`, actual `0`). -/
theorem viterbi_cost_of_path_needs_nonneg_beta :
    ∃ (K : Nat) (pts : List ((Nat → Int) × Int)),
      0 < K ∧ pts ≠ [] ∧ (viterbi K pts).2 ≠ totalCost pts (viterbi K pts).1 :=
  ⟨1, [(fun _ => 0, -1), (fun _ => 0, 0)], by decide, List.cons_ne_nil _ _, by decide⟩

/-- optimality: no labelling with labels `< K` is cheaper (for all `K^T` of them).
(`hb` is in fact not needed for this direction: `viterbi_cost_lower_bound`.) -/
theorem viterbi_optimal (K : Nat) (hK : 0 < K) (pts : List ((Nat → α) × α))
    (hb : BetaNonneg pts) (q : List Nat) (hq : ValidLabels K pts.length q) :
    (viterbi K pts).2 ≤ totalCost pts q := by
  have _ := hK
  have _ := hb
  exact viterbi_cost_lower_bound K pts q hq.1 hq.2

/-- the returned labelling is itself a valid candidate, so it is a minimiser. -/
theorem viterbi_returns_minimiser (K : Nat) (hK : 0 < K) (pts : List ((Nat → α) × α))
    (h : pts ≠ []) (hb : BetaNonneg pts) :
    ValidLabels K pts.length (viterbi K pts).1 ∧
    ∀ q, ValidLabels K pts.length q → totalCost pts (viterbi K pts).1 ≤ totalCost pts q := by
  refine ⟨⟨viterbi_length K pts h, viterbi_labels_in_range K hK pts⟩, fun q hq => ?_⟩
  rw [← viterbi_cost_is_cost_of_path K hK pts h hb]
  exact viterbi_optimal K hK pts hb q hq

/-- scalar switching cost (`np.zeros(T) + beta`) is the per-pair vector filled with it. -/
theorem viterbi_scalar_beta (K : Nat) (rows : List (Nat → α)) (b : α) :
    viterbi K (withScalarBeta rows b)
      = viterbi K (withVectorBeta rows (List.replicate rows.length b)) := by
  rw [withScalarBeta_eq]

omit [IsOrderedAddMonoid α] in
/-- the executable refinement returns exactly what the specification-level model returns.
(Holds for the bare operations `[Add α] [Sub α] [LT α] [DecidableLT α] [Zero α]`:
`viterbiFast_eq_viterbi` in `Proofs/Viterbi.lean`.  `0 < K` is necessary.) -/
theorem viterbiFast_eq (K : Nat) (hK : 0 < K) (pts : List ((Nat → α) × α)) :
    viterbiFast K pts = viterbi K pts :=
  viterbiFast_eq_viterbi K hK pts

/-- `0 < K` is needed in `viterbiFast_eq`: for `K = 0` the stored rows are empty. -/
theorem viterbiFast_eq_needs_pos_K :
    ∃ pts : List ((Nat → Int) × Int), viterbiFast 0 pts ≠ viterbi 0 pts :=
  ⟨[(fun _ => 0, 0), (fun _ => 1, 0)], by decide⟩

/-- `beta ≥ 0` is needed: with a negative switching cost the kernel is not optimal —
some valid labelling is strictly cheaper than the returned one
(`K = 2`, two all-zero points, `beta = -5`: returned `[0, 0]` costs `0`, `[0, 1]` costs `-5`).

RESTATED: the seeded form compared against the *reported* cost,
`totalCost pts q < (viterbi K pts).2`; that form is false (the reported cost is a lower
bound whatever the sign of beta), see `viterbi_reported_cost_never_beaten`. -/
theorem viterbi_needs_nonneg_beta :
    ∃ (K : Nat) (pts : List ((Nat → Int) × Int)) (q : List Nat),
      0 < K ∧ ValidLabels K pts.length q ∧
        totalCost pts q < totalCost pts (viterbi K pts).1 :=
  ⟨2, [(rowOfList [0, 0], -5), (rowOfList [0, 0], 0)], [0, 1],
    by decide, ⟨rfl, by decide⟩, by decide⟩

/-- the seeded form of `viterbi_needs_nonneg_beta` is refutable: no valid labelling is
ever strictly cheaper than the *reported* cost, even for negative switching costs. -/
theorem viterbi_reported_cost_never_beaten :
    ¬ ∃ (K : Nat) (pts : List ((Nat → Int) × Int)) (q : List Nat),
      0 < K ∧ ValidLabels K pts.length q ∧ totalCost pts q < (viterbi K pts).2 := by
  rintro ⟨K, pts, q, _, hq, hlt⟩
  exact absurd (viterbi_cost_lower_bound K pts q hq.1 hq.2) (not_le.mpr hlt)

/-- non-vacuity: a concrete instance with ties, a negative cost and per-pair betas
meets every hypothesis, and its optimum differs from the greedy labelling. -/
example :
    let pts : List ((Nat → Int) × Int) :=
      [(rowOfList [0, 3], 2), (rowOfList [5, -1], 0), (rowOfList [1, 1], 4), (rowOfList [2, 0], 7)]
    BetaNonneg pts ∧ (viterbi 2 pts).1.length = 4 := by
  intro pts
  refine ⟨?_, by decide⟩
  unfold BetaNonneg
  decide

/-- the same instance, spelled out: the optimum `[0, 1, 1, 1]` (cost `2`) differs from the
per-point greedy labelling `[0, 1, 0, 1]` (cost `6`). -/
example :
    let pts : List ((Nat → Int) × Int) :=
      [(rowOfList [0, 3], 2), (rowOfList [5, -1], 0), (rowOfList [1, 1], 4), (rowOfList [2, 0], 7)]
    viterbi 2 pts = ([0, 1, 1, 1], 2) ∧ totalCost pts [0, 1, 0, 1] = 6 := by
  decide

end FastTicc.Viterbi
