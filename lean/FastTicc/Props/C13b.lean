/-
Property C13 (continued) — the `Fitted` hypothesis of `deepCopy_same_view` is established by the
algorithm: after the statistics and optimisation phases every cluster of the handed-on state has
its mean, empirical covariance, MRF and computed covariance.
-/
import FastTicc.Props.C13

namespace FastTicc.Heap

theorem stats_then_opt_fitted (h : Heap) (ho : Owned h) (s : Nat) (hi : Inv h s) :
    let (s2, h2) := statsPhase h s
    let (s3, h3) := optPhase h2 s2
    Fitted h3 s3 := by
  split; rename_i s2 h2 e2
  split; rename_i s3 h3 e3
  exact stats_opt_fitted ho hi e2 e3

theorem round_establishes_fitted (h : Heap) (ho : Owned h) (s : Nat) (hi : Inv h s)
    (moves : List (List Nat)) (newLabels : List Nat) (cost : Nat) :
    let (s1, h1) := repopPhase h s moves
    let (s2, h2) := statsPhase h1 s1
    let (s3, h3) := optPhase h2 s2
    let (s4, h4) := relabelPhase h3 s3 newLabels cost
    Fitted h4 s4 ∧ Fitted h4 s3 := by
  split; rename_i s1 h1 e1
  obtain ⟨x1, i1⟩ := repop_phase ho hi e1
  split; rename_i s2 h2 e2
  obtain ⟨x2, i2, -⟩ := stats_phase x1.owned i1 e2
  split; rename_i s3 h3 e3
  obtain ⟨x3, i3, sc3, -⟩ := opt_phase x2.owned i2 e3
  split; rename_i s4 h4 e4
  obtain ⟨x4, -⟩ := relabel_phase x3.owned i3 sc3 e4
  exact ⟨relabel_fitted x3.owned i3 e4,
    Fitted_of_view (x4.view _ i3.lt) (stats_opt_fitted x1.owned i1 e2 e3)⟩

end FastTicc.Heap
