/-
Property C13 — model state: labels and cluster membership always describe one partition.
Property theorems only; the predicates (`Owned`, `Inv`, `Scored`, `Fitted`) and the helper lemmas
live in `FastTicc/Proofs/Heap.lean`.
-/
import FastTicc.Model.Heap
import FastTicc.Proofs.Heap

namespace FastTicc.Heap

/-- assigning a new labelling re-derives membership immediately: afterwards the state satisfies
the partition invariant (whenever the labelling differs from the current one — an equal
labelling is a no-op and keeps whatever held before). -/
theorem assign_establishes_inv (h : Heap) (ho : Owned h) (s : Nat) (st : State)
    (hs : h.states[s]? = some st) (lab : Nat × List Nat)
    (hne : st.labels.map (·.2) ≠ some lab.2 ∨ Inv h s) :
    Inv (assign h s lab) s :=
  assign_inv ho hs lab hne

/-- … and touches no other state (under the ownership discipline). -/
theorem assign_frame (h : Heap) (ho : Owned h) (s t : Nat) (hts : t ≠ s) (lab : Nat × List Nat) :
    view (assign h s lab) t = view h t :=
  (assign_local h s lab).view ho hts

/-- assigning through a *shallow* copy is the documented hazard: it rewrites the membership of
cluster objects the source still uses, breaking the source's invariant.  (This is why the phases
deep-copy the clusters before assigning.) -/
theorem shallow_assign_hazard :
    ∃ (h : Heap) (s : Nat), Owned h ∧ Inv h s ∧
      let (n, h1) := shallowState h s
      let h2 := assign h1 n (h1.next, [0, 0])
      ¬ Inv h2 s := by
  exact ⟨hazardHeap, 0, hazard_owned, hazard_inv,
    fun hc => Bool.false_ne_true (hazard_broken.symm.trans hc)⟩

/-- a deep copy shares nothing mutable with its source (repaired argument copy). -/
theorem deepCopy_disjoint (h : Heap) (ho : Owned h) (s : Nat) (st : State)
    (hs : h.states[s]? = some st)
    (hfresh : ∀ o ∈ reachable h s, ∀ i, o = .obj i → i < h.next) :
    let (n, h') := deepState true h s
    ∀ o ∈ reachable h' n, o ∉ reachable h' s :=
  deepState_disjoint ho hs hfresh

/-- … and has the same observable content, provided the source's cluster references are
allocated objects and its clusters are fitted (`np.copy(None)` is an array, not `None`). -/
theorem deepCopy_same_view (repaired : Bool) (h : Heap) (s : Nat) (st : State)
    (hs : h.states[s]? = some st) (hal : ∀ r ∈ st.clusters, r < h.clusters.length)
    (hfit : Fitted h s) :
    let (n, h') := deepState repaired h s
    view h' n = view h s ∧ view h' s = view h s :=
  deepState_view repaired hs hal (hfit st hs)

/-- the pinned argument copy still shares an array-valued sparsity weight with its source. -/
theorem deepCopy_pinned_shares :
    ∃ (h : Heap) (s : Nat), Owned h ∧
      let (n, h') := deepState false h s
      ∃ o, o ∈ reachable h' n ∧ o ∈ reachable h' s :=
  ⟨pinnedHeap, 0, pinned_owned, .obj 0, pinned_shared⟩

/-- frame + invariant for each phase: every state that existed before the call has the same
labels, membership, mean, empirical covariance, MRF, computed covariance and log-determinant
after it, the ownership discipline is kept, and the returned state satisfies the invariant. -/
theorem repop_phase_spec (h : Heap) (ho : Owned h) (s : Nat) (hi : Inv h s) (moves : List (List Nat)) :
    let (n, h') := repopPhase h s moves
    Owned h' ∧ Inv h' n ∧ ∀ t, t < h.states.length → view h' t = view h t := by
  split; rename_i n h' e
  obtain ⟨x, i⟩ := repop_phase ho hi e
  exact ⟨x.owned, i, x.view⟩

theorem stats_phase_spec (h : Heap) (ho : Owned h) (s : Nat) (hi : Inv h s) :
    let (n, h') := statsPhase h s
    Owned h' ∧ Inv h' n ∧ (view h' n).map (·.labels) = (view h s).map (·.labels) ∧
      ∀ t, t < h.states.length → view h' t = view h t := by
  split; rename_i n h' e
  obtain ⟨x, i, l⟩ := stats_phase ho hi e
  exact ⟨x.owned, i, l, x.view⟩

theorem opt_phase_spec (h : Heap) (ho : Owned h) (s : Nat) (hi : Inv h s) :
    let (n, h') := optPhase h s
    Owned h' ∧ Inv h' n ∧ Scored h' n ∧ (view h' n).map (·.labels) = (view h s).map (·.labels) ∧
      ∀ t, t < h.states.length → view h' t = view h t := by
  split; rename_i n h' e
  obtain ⟨x, i, sc, l⟩ := opt_phase ho hi e
  exact ⟨x.owned, i, sc, l, x.view⟩

theorem relabel_phase_spec (h : Heap) (ho : Owned h) (s : Nat) (hi : Inv h s) (hsc : Scored h s)
    (newLabels : List Nat) (cost : Nat) :
    let (n, h') := relabelPhase h s newLabels cost
    Owned h' ∧ Inv h' n ∧ (view h' n).bind (·.labels) = some newLabels ∧
      ∀ t, t < h.states.length → view h' t = view h t := by
  split; rename_i n h' e
  obtain ⟨x, i, l⟩ := relabel_phase ho hi hsc e
  exact ⟨x.owned, i, l, x.view⟩

/-- one whole round (optional repopulation, statistics, optimisation, relabelling) keeps the
discipline, hands on a state satisfying the invariant, and leaves every earlier state as it was. -/
theorem round_spec (h : Heap) (ho : Owned h) (s : Nat) (hi : Inv h s)
    (moves : List (List Nat)) (newLabels : List Nat) (cost : Nat) :
    let (s1, h1) := repopPhase h s moves
    let (s2, h2) := statsPhase h1 s1
    let (s3, h3) := optPhase h2 s2
    let (s4, h4) := relabelPhase h3 s3 newLabels cost
    Owned h4 ∧ Inv h4 s4 ∧ Inv h4 s1 ∧ Inv h4 s2 ∧ Inv h4 s3 ∧
      ∀ t, t < h.states.length → view h4 t = view h t := by
  split; rename_i s1 h1 e1
  obtain ⟨x1, i1⟩ := repop_phase ho hi e1
  split; rename_i s2 h2 e2
  obtain ⟨x2, i2, -⟩ := stats_phase x1.owned i1 e2
  split; rename_i s3 h3 e3
  obtain ⟨x3, i3, sc3, -⟩ := opt_phase x2.owned i2 e3
  split; rename_i s4 h4 e4
  obtain ⟨x4, i4, -⟩ := relabel_phase x3.owned i3 sc3 e4
  exact ⟨x4.owned, i4, (x2.trans (x3.trans x4)).inv x1.owned i1, (x3.trans x4).inv x2.owned i2,
    x4.inv x3.owned i3, (x1.trans (x2.trans (x3.trans x4))).view⟩

/-- the initial model, once labelled, satisfies the discipline and the invariant. -/
theorem init_spec (K : Nat) (ls : List Nat) (hne : ls ≠ []) :
    let h0 : Heap := ⟨[], [⟨.scalar 0, .scalar 0, K⟩], [], 2⟩
    let (s, h1) := emptyModel h0 0 ⟨0, 0⟩
    let h2 := assign h1 s (1, ls)
    Owned h2 ∧ Inv h2 s := by
  have _ := hne  -- not needed: an empty labelling clears every member list
  obtain ⟨ho, y, hy, hl⟩ := emptyModel_spec (Owned.nil [] [⟨.scalar 0, .scalar 0, K⟩] 2)
    (a := 0) (Nat.zero_lt_one) ⟨0, 0⟩
  exact ⟨(assign_local _ _ _).shape.owned ho, assign_inv ho hy _ (Or.inl (by simp [hl]))⟩

end FastTicc.Heap
