/-
Whole-run theorems: the composed model (`Run.run`) inherits the main-loop theorems (C09), the
kernel's optimality (C01) and the membership / statistics definitions (C12, C13) — for every
input, every oracle (ADMM outputs, random draws, needy-set orders) and every limit.
Helper lemmas live in `FastTicc/Proofs/Run.lean`.
-/
import FastTicc.Model.Run
import FastTicc.Props.Compose
import FastTicc.Props.C08
import FastTicc.Proofs.Run
import Mathlib.Algebra.Order.Field.Basic

namespace FastTicc.Run
open FastTicc FastTicc.Viterbi

variable {α : Type} [Field α] [LinearOrder α] [IsStrictOrderedRing α]

/-- a labelling of the `T` windows with labels `< K`. -/
def ValidLabelling (inp : Input α) (ls : List Nat) : Prop := ls.length = inp.T ∧ ∀ l ∈ ls, l < inp.K

/-- every labelling a run ever holds (after every round) labels each of the `T` windows with a label
in `[0, K)` — through repopulation, refitting and relabelling. -/
theorem run_labels_valid (inp : Input α) (orc : Oracles α) (hK : 0 < inp.K) (hT : 0 < inp.T)
    (hm : 1 ≤ inp.m) (limit : Nat) (init : List Nat) (hinit : ValidLabelling inp init)
    (r : MainLoop.Outcome (St α)) (h : run inp orc limit init = .ok r) :
    ∀ s ∈ r.history, ValidLabelling inp s.labels := by
  -- `hm` and `hinit` are not needed: `history` only records states *after* a `relabel`, and the
  -- kernel always returns `T` labels `< K`.  (For the intermediate, post-repopulation labelling see
  -- `repop_phase_keeps_valid` below.)
  have _ := hm
  have _ := hinit
  intro s hs
  obtain ⟨_, _, T⟩ := MainLoop.run_ok _ _ h
  obtain ⟨j, hj⟩ := List.mem_iff_getElem?.mp hs
  obtain ⟨a, b, _, hb, hab, _⟩ := T.step j (List.getElem?_eq_some_iff.mp hj).1
  obtain rfl : b = s := Option.some.inj (hb.symm.trans hj)
  obtain ⟨s1, _, rfl⟩ := round_ok_shape inp orc _ a _ hab
  exact relab_labels_valid inp orc _ hK hT

/-- ADDED (not seeded): the labelling *between* the phases.  `run_labels_valid` only speaks about the
recorded states, which are all kernel outputs; the labelling the `stats` phase fits — the output of
the repopulation — is valid as soon as the input labelling is and the recipients the needy-set
oracle names are clusters (`< K`).  Nothing is needed about `pick`, `spread` or `m`: `movePoints`
only ever writes the recipient's label, and `List.set` keeps the length. -/
theorem repop_phase_keeps_valid (inp : Input α) (orc : Oracles α) (s s' : St α)
    (hord : ∀ e ∈ orc.order s.round, e < inp.K) (hs : ValidLabelling inp s.labels)
    (h : (phases inp orc).repop s = .ok s') : ValidLabelling inp s'.labels := by
  rcases repop_cases inp orc s with he | ⟨l, hrep, hl⟩
  · rw [he] at h; cases h
  · rw [hl] at h
    cases h
    obtain ⟨a, b⟩ := Repop.repopulate_valid inp.K inp.m _ _ _ _ l hord hs.2 hrep
    exact ⟨a.trans hs.1, b⟩

/-- … and `hord` cannot be dropped: a recipient `≥ K` named by the order oracle is written into the
labelling (`K = 2`, `m = 1`, labels `[0,0,0,0]`, order `[5]`, draw `[0]`: result `[5,0,0,0]`). -/
theorem repop_phase_needs_recipients_below_K :
    ∃ (inp : Input Rat) (orc : Oracles Rat) (s s' : St Rat),
      ValidLabelling inp s.labels ∧ (phases inp orc).repop s = .ok s' ∧
        ¬ ValidLabelling inp s'.labels := by
  refine ⟨⟨4, 1, 2, 1, fun _ _ => 0, [], 0, 0⟩,
    ⟨fun _ _ _ _ => 0, fun _ _ => 0, fun _ _ => 0, fun _ => [5], fun _ _ _ => [0]⟩,
    ⟨[0, 0, 0, 0], 0, 0, [], []⟩, ⟨[5, 0, 0, 0], 0, 0, [], []⟩, ?_, ?_, ?_⟩
  · exact ⟨rfl, by decide⟩
  · have : Repop.repopulate 2 1 (fun _ : Nat => (0 : Rat)) (fun _ _ => [0]) [5] [0, 0, 0, 0]
        = some [5, 0, 0, 0] := by
      have h1 : Repop.needy 2 [0, 0, 0, 0] ≠ [] := by decide
      have h2 : Repop.rankedDonors (fun _ : Nat => (0 : Rat)) 2 1 [0, 0, 0, 0] = [0] := by decide
      simp only [Repop.repopulate, h1, if_false, h2, Repop.refill]
      rw [Repop.findDonor]
      decide
    simp only [phases, this]
  · rintro ⟨_, h2⟩
    exact absurd (h2 5 (by simp)) (by decide)

/-- the round counter the oracles are indexed by is the loop's round index. -/
theorem run_round_counter (inp : Input α) (orc : Oracles α) (limit : Nat) (init : List Nat)
    (r : MainLoop.Outcome (St α)) (h : run inp orc limit init = .ok r) (j : Nat) (hj : j < r.rounds) :
    ∃ s, r.history[j]? = some s ∧ s.round = j + 1 := by
  exact history_round inp orc h j hj

omit [LinearOrder α] [IsStrictOrderedRing α] in
/-- ADDED: the stored mean table is the pointwise definition — inside the table's bounds, entry
`(k, j)` of `meanTable` is the mean of column `j` over exactly the members of cluster `k`. -/
theorem meanOf_meanTable (inp : Input α) (labels ls fl : List Nat) (r : Nat) (c : α) (k j : Nat)
    (hk : k < inp.K) (hj : j < inp.d) :
    meanOf (⟨ls, r, c, meanTable inp labels, fl⟩ : St α) k j
      = Numeric.clusterMean inp.data (Repop.members labels k) j := by
  simp [meanOf, meanTable, List.getD_eq_getElem?_getD, hk, hj]

/-- the labelling a run returns is a minimum-cost labelling of the cost table built from the model it
returns: the means of exactly the windows each cluster held when it was fitted in the last round,
and that round's MRFs (C09 + C01 + C12 composed). -/
theorem run_returned_optimal (inp : Input α) (orc : Oracles α) (hK : 0 < inp.K) (hT : 0 < inp.T)
    (hb : ∀ b ∈ inp.betas, 0 ≤ b) (limit : Nat) (hl : 1 ≤ limit) (init : List Nat)
    (r : MainLoop.Outcome (St α)) (h : run inp orc limit init = .ok r) :
    ∃ sFit : St α,
      sFit.means = meanTable inp sFit.labels ∧
      r.final.labels = (viterbi inp.K (costPoints inp orc sFit)).1 ∧
      r.final.cost = totalCost (costPoints inp orc sFit) r.final.labels ∧
      ∀ q, q.length = inp.T → (∀ l ∈ q, l < inp.K) →
        totalCost (costPoints inp orc sFit) r.final.labels ≤ totalCost (costPoints inp orc sFit) q := by
  obtain ⟨s1, hfin⟩ := run_final inp orc hl h
  obtain ⟨hlab, hcost⟩ := relab_eq_viterbi inp orc (fit inp s1) hK
  rw [← hfin] at hlab hcost
  have hne := costPoints_ne_nil inp orc (fit inp s1) hT
  have hbn := costPoints_betaNonneg inp orc (fit inp s1) hb
  refine ⟨fit inp s1, rfl, hlab, ?_, fun q hq1 hq2 => ?_⟩
  · rw [hcost, hlab]
    exact viterbi_cost_is_cost_of_path inp.K hK _ hne hbn
  · rw [hlab]
    exact (viterbi_returns_minimiser inp.K hK _ hne hbn).2 q
      ⟨hq1.trans (costPoints_length inp orc _).symm, hq2⟩

/-- a run fails only with the donor-shortage error of a repopulation or the empty-cluster assertion of
a statistics phase (the other modelled phases are total). -/
theorem run_error_kinds (inp : Input α) (orc : Oracles α) (limit : Nat) (init : List Nat) (e : String)
    (h : run inp orc limit init = .error e) : e = "no-donor" ∨ e = "empty-cluster" := by
  obtain ⟨j, sPrev, _, hr⟩ :=
    MainLoop.run_error_from_a_round (phases inp orc) (fun s => s.labels) limit _ e h
  rcases round_cases inp orc j sPrev with he | ⟨s1, _, hs1⟩
  · rw [he] at hr
    exact .inl (Except.error.inj hr).symm
  · rw [hs1] at hr
    split at hr
    · exact .inr (Except.error.inj hr).symm
    · cases hr

/-- the first round (no repopulation) fails with the empty-cluster assertion exactly when the
labelling it starts from — the initial (mixture-model) labelling — leaves a cluster without windows. -/
theorem first_round_empty_cluster_iff (inp : Input α) (orc : Oracles α) (s : St α) :
    MainLoop.round (phases inp orc) 0 s = .error "empty-cluster" ↔ hasEmpty inp.K s.labels = true := by
  rw [round_eq, if_neg (Nat.lt_irrefl 0)]
  show (if hasEmpty inp.K s.labels then _ else _) = _ ↔ _
  split
  next h => exact ⟨fun _ => h, fun _ => rfl⟩
  next h => exact ⟨(fun h' => nomatch h'), fun h' => absurd h' h⟩

/-- after a successful repopulation no cluster is empty (`m ≥ 1`, admissible draws, the needy clusters
visited in some order): recipients gained `m`, donors keep at least `m`, the others keep what they had. -/
theorem repop_leaves_no_empty_cluster {β : Type} [LT β] [DecidableLT β] (K m : Nat) (spread : Nat → β)
    (pick : Nat → Nat → List Nat) (order labels labels' : List Nat) (hm : 1 ≤ m)
    (hK : Repop.AllBelow K labels) (hp : Repop.ValidPick m pick) (ho : order.Perm (Repop.needy K labels))
    (h : Repop.repopulate K m spread pick order labels = some labels') :
    hasEmpty K labels' = false := by
  unfold hasEmpty
  rw [Bool.eq_false_iff]
  intro hany
  obtain ⟨k, hk, hz⟩ := List.any_eq_true.mp hany
  have hz' : Repop.size labels' k = 0 := by simpa using hz
  have := Repop.repop_size_ge K m spread pick order labels labels' hm hK hp ho h k
    (List.mem_range.mp hk)
  omega

/-- hence a round that repopulates (every round but the first) never fails with the empty-cluster
assertion, provided the needy-set oracle of that round enumerates the needy clusters and the draws
are admissible: the only failure left for it is the donor shortage. -/
theorem later_round_never_empty_cluster (inp : Input α) (orc : Oracles α) (i : Nat) (hi : 0 < i) (s : St α)
    (hm : 1 ≤ inp.m) (hK : Repop.AllBelow inp.K s.labels) (hp : Repop.ValidPick inp.m (orc.pick s.round))
    (ho : (orc.order s.round).Perm (Repop.needy inp.K s.labels)) :
    MainLoop.round (phases inp orc) i s ≠ .error "empty-cluster" := by
  intro herr
  rw [round_eq, if_pos hi] at herr
  rcases repop_cases inp orc s with he | ⟨l, hrep, hl⟩
  · rw [he] at herr
    exact absurd (Except.error.inj herr) (by simp)
  · rw [hl] at herr
    have hne := repop_leaves_no_empty_cluster inp.K inp.m _ _ _ _ l hm hK hp ho hrep
    change (if hasEmpty inp.K l then _ else _) = _ at herr
    rw [hne] at herr
    cases herr

end FastTicc.Run
