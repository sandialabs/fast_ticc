/-
Helper lemmas for property C11 (index maps): the offsets of the rows of the row-major upper triangle
and their closed form, indexing into `triuIdx`, and membership in `positions` and `classes`.
-/
import FastTicc.Model.Index
import FastTicc.Proofs.ListLemmas
import Mathlib.Data.List.Nodup
import Mathlib.Data.Nat.Sqrt
import Mathlib.Tactic.Ring

namespace FastTicc.Index.Aux

theorem two_mul_tri (r : Nat) : 2 * (r * (r + 1) / 2) = r * (r + 1) :=
  Nat.two_mul_div_two_of_even (Nat.even_mul_succ_self r)

@[simp] theorem rowIdx_length (n r : Nat) : (rowIdx n r).length = n - r := by
  simp [rowIdx]

/-- total length of the first `r` rows of `triuIdx n`: the offset of row `r`. -/
def pre (n r : Nat) : Nat := ((List.range r).flatMap (rowIdx n)).length

theorem pre_succ (n r : Nat) : pre n (r + 1) = pre n r + (n - r) := by
  simp [pre, List.range_succ, List.flatMap_append]

theorem pre_formula (n r : Nat) (h : r ≤ n) : 2 * pre n r + r * r = 2 * (n * r) + r := by
  induction r with
  | zero => rfl
  | succ k ih =>
    have hk : k ≤ n := Nat.le_of_succ_le h
    calc 2 * pre n (k + 1) + (k + 1) * (k + 1)
        = (2 * pre n k + k * k) + 2 * (n - k + k) + 1 := by rw [pre_succ]; ring
      _ = (2 * (n * k) + k) + 2 * n + 1 := by rw [ih hk, Nat.sub_add_cancel hk]
      _ = 2 * (n * (k + 1)) + (k + 1) := by ring

/-- rows `0, …, r` hold `n (r + 1) - r (r + 1) / 2` entries, said without the subtraction -/
theorem pre_succ_add_tri (n r : Nat) (h : r < n) : pre n (r + 1) + r * (r + 1) / 2 = n * (r + 1) := by
  -- twice both sides, plus `r + 1`, is `pre_formula`
  refine Nat.eq_of_mul_eq_mul_left Nat.two_pos (Nat.add_right_cancel (m := r + 1) ?_)
  rw [← pre_formula n (r + 1) h, Nat.mul_add 2, two_mul_tri]
  ring

/-- `_size_including_this_row(r, n)` is what its name says: the closed form counts the entries of
rows `0, …, r`. -/
theorem sizeIncludingRow_eq (n r : Nat) (h : r < n) : sizeIncludingRow r n = pre n (r + 1) :=
  Nat.sub_eq_of_eq_add (pre_succ_add_tri n r h).symm

theorem compressedIndex_eq (n r c : Nat) (hrc : r ≤ c) (hc : c < n) :
    compressedIndex r c n = pre n r + (c - r) := by
  unfold compressedIndex elementsAfter
  rw [sizeIncludingRow_eq n r (Nat.lt_of_le_of_lt hrc hc), pre_succ]
  -- `(n - 1) - c + 1 = n - c`, and `n - r = (n - c) + (c - r)`
  omega

theorem triuIdx_getElem? (n r c : Nat) (hrc : r ≤ c) (hc : c < n) :
    (triuIdx n)[pre n r + (c - r)]? = some (r, c) := by
  have hk : c - r < n - r := Nat.sub_lt_sub_right hrc hc
  unfold triuIdx pre
  rw [getElem?_flatMap_range _ (Nat.lt_of_le_of_lt hrc hc) (by rw [rowIdx_length]; exact hk), rowIdx,
    List.getElem?_map, List.getElem?_range hk, Option.map_some, Nat.add_sub_cancel' hrc]

theorem nodup_flatMap_of_tag {α β : Type} (tag : β → α) (l : List α) (f : α → List β)
    (hl : l.Nodup) (hf : ∀ a ∈ l, (f a).Nodup) (htag : ∀ a ∈ l, ∀ p ∈ f a, tag p = a) :
    (l.flatMap f).Nodup := by
  rw [List.nodup_flatMap]
  refine ⟨hf, hl.imp_of_mem ?_⟩
  intro a b ha hb hab p h1 h2
  exact hab ((htag a ha p h1).symm.trans (htag b hb p h2))

theorem mem_positions (b r c N W R C : Nat) :
    (R, C) ∈ positions b r c N W ↔ ∃ i, i < W - b ∧ i * N + r = R ∧ b * N + i * N + c = C := by
  simp only [positions, blockStarts, List.map_map, List.mem_map, List.mem_range,
    Function.comp, Prod.mk.injEq, Nat.zero_add]

theorem mem_classes (N W b r c : Nat) :
    (b, r, c) ∈ classes N W ↔ b < W ∧ r < N ∧ c < N ∧ (b = 0 → r ≤ c) := by
  simp only [classes, List.mem_flatMap, List.mem_map, List.mem_filter, List.mem_range,
    Prod.mk.injEq]
  constructor
  · rintro ⟨b', hb', r', hr', c', ⟨hc', hf⟩, rfl, rfl, rfl⟩
    refine ⟨hb', hr', hc', fun h0 => ?_⟩
    simpa [h0] using hf
  · rintro ⟨hb, hr, hc, h0⟩
    refine ⟨b, hb, r, hr, c, ⟨hc, ?_⟩, rfl, rfl, rfl⟩
    by_cases hb0 : b = 0
    · simpa [hb0] using h0 hb0
    · simp [hb0]

end FastTicc.Index.Aux
