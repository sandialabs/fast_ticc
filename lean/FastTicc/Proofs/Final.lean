/- Helper lemmas for the whole-result theorems (`Props/Final.lean`). -/
import FastTicc.Model.Final
import FastTicc.Proofs.Run
import FastTicc.Proofs.Result
import FastTicc.Props.C06
import Mathlib.Algebra.Order.Field.Basic

namespace FastTicc.Final
open FastTicc FastTicc.Run FastTicc.Viterbi

-- the statements keep the section's algebraic context even where a proof needs less of it
set_option linter.unusedSectionVars false

variable {α : Type} [Field α] [LinearOrder α] [IsStrictOrderedRing α]

theorem final_labels_valid (inp : Input α) (orc : Oracles α) (hK : 0 < inp.K) (hT : 0 < inp.T)
    {limit : Nat} (hl : 1 ≤ limit) {init : List Nat} {o : MainLoop.Outcome (St α)}
    (h : run inp orc limit init = .ok o) :
    o.final.labels.length = inp.T ∧ ∀ l ∈ o.final.labels, l < inp.K := by
  obtain ⟨s1, hs⟩ := run_final inp orc hl h
  rw [hs]
  exact relab_labels_valid inp orc _ hK hT

theorem fit_ok {inp : Input α} {orc : Oracles α} {logT thr : α} {biased : Bool} {limit : Nat}
    {init : List Nat} {rep : Report α} (h : fit inp orc logT thr biased limit init = .ok rep) :
    ∃ o, run inp orc limit init = .ok o ∧ rep = report inp orc logT thr biased o := by
  unfold fit at h
  split at h
  · next o ho => exact ⟨o, ho, (Except.ok.inj h).symm⟩
  · cases h

/-! ### the two halves of the cost, on the table a relabelling was chosen from -/

/-- the relabel phase scores with `−log-likelihood` and then increments the round counter, so the
log-likelihood of a window under the state it returns (`fitRound` = the round before) is minus the
entry of the cost table its label was chosen from. -/
theorem pointLL_relab (inp : Input α) (orc : Oracles α) (s : St α) (p : Nat) (hp : p < inp.T)
    (hlab : (relab inp orc s).labels.getD p 0 < inp.K) :
    pointLL inp orc (relab inp orc s) p =
      - ((costPoints inp orc s).getD p (fun _ => 0, 0)).1 ((relab inp orc s).labels.getD p 0) := by
  rw [costPoints, getD_map_range _ _ hp]
  simp only [rowOfList, getD_map_range _ _ hlab, neg_neg]
  rfl

theorem assignCost_costPoints (inp : Input α) (orc : Oracles α) (s : St α) (hK : 0 < inp.K)
    (hT : 0 < inp.T) :
    assignCost (costPoints inp orc s) (relab inp orc s).labels
      = - (pointLLs inp orc (relab inp orc s)).sum := by
  obtain ⟨hlen, hlt⟩ := relab_labels_valid inp orc s hK hT
  rw [Result.assignCost_eq_sum_range _ _ (fun _ => 0, 0) (hlen.trans (costPoints_length inp orc s).symm),
    costPoints_length, pointLLs, List.sum_neg, List.map_map]
  congr 1
  apply List.map_congr_left
  intro p hp
  have hp' : p < inp.T := List.mem_range.mp hp
  have hlab : (relab inp orc s).labels.getD p 0 < inp.K := getD_of_forall_mem hlt hK p
  rw [Function.comp, pointLL_relab inp orc s p hp' hlab, neg_neg]

theorem switchCost_costPoints (inp : Input α) (orc : Oracles α) (s : St α) (ls : List Nat)
    (hls : ls.length = inp.T) :
    switchCost (costPoints inp orc s) ls = switchSum (fun i => inp.betas.getD i 0) ls := by
  apply Result.switchCost_eq_switchSum
  intro i hi
  rw [costPoints, List.getElem?_map, List.getElem?_range (hls ▸ Nat.lt_of_succ_lt hi)]
  rfl

theorem relab_cost_identity (inp : Input α) (orc : Oracles α) (s : St α) (hK : 0 < inp.K)
    (hT : 0 < inp.T) (hb : ∀ b ∈ inp.betas, 0 ≤ b) :
    (relab inp orc s).cost = - (pointLLs inp orc (relab inp orc s)).sum
      + switchSum (fun i => inp.betas.getD i 0) (relab inp orc s).labels := by
  have hcost : (relab inp orc s).cost
      = totalCost (costPoints inp orc s) (relab inp orc s).labels := by
    show (viterbiFast inp.K _).2 = totalCost _ (viterbiFast inp.K _).1
    rw [viterbiFast_eq inp.K hK]
    exact viterbi_cost_is_cost_of_path inp.K hK _ (costPoints_ne_nil inp orc s hT)
      (costPoints_betaNonneg inp orc s hb)
  rw [hcost, totalCost, assignCost_costPoints inp orc s hK hT,
    switchCost_costPoints inp orc s _ (relab_labels_valid inp orc s hK hT).1]

/-! ### likelihood accounting on a valid labelling -/

theorem allLL_perm_valid (K : Nat) (ls : List Nat) (ll : List α) (hv : ∀ l ∈ ls, l < K)
    (hlen : ls.length = ll.length) :
    (Result.allLL K (ls.map Int.ofNat) ll).Perm ll := by
  -- every point is labelled, so the filter of `all_ll_perm` keeps all of them
  have hall : ∀ q ∈ (ls.map Int.ofNat).zip ll, Result.labelled K q.1 = true := by
    intro q hq
    obtain ⟨l, hlm, hl⟩ := List.mem_map.mp (List.of_mem_zip hq).1
    simp [← hl, Result.labelled, hv l hlm]
  have hp := Result.all_ll_perm K (ls.map Int.ofNat) ll
  rwa [List.filter_eq_self.mpr hall, List.map_snd_zip (by simp [hlen])] at hp

theorem report_all_perm (inp : Input α) (orc : Oracles α) (logT thr : α) (biased : Bool)
    (hK : 0 < inp.K) (hT : 0 < inp.T) {limit : Nat} (hl : 1 ≤ limit) {init : List Nat}
    {o : MainLoop.Outcome (St α)} (h : run inp orc limit init = .ok o) :
    (report inp orc logT thr biased o).agg.all.Perm (pointLLs inp orc o.final) := by
  obtain ⟨hlen, hlt⟩ := final_labels_valid inp orc hK hT hl h
  exact allLL_perm_valid inp.K o.final.labels _ hlt (by simp [pointLLs, hlen])

end FastTicc.Final
