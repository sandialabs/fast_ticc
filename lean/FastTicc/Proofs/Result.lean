/- Helper lemmas for properties C06 and C16. -/
import FastTicc.Model.Result
import FastTicc.Proofs.ListLemmas
import Mathlib.Algebra.Order.Field.Basic
import Mathlib.Algebra.BigOperators.Group.List.Basic
import Mathlib.Algebra.Order.Group.Abs
import Mathlib.Data.List.SplitBy
import Mathlib.Data.List.Sort

namespace FastTicc.Result

theorem sum_eq_sum {α : Type} [AddCommMonoid α] (l : List α) : sum l = l.sum :=
  List.sum_eq_foldl.symm

theorem filter_zip_fst_length {γ β : Type} (f : γ → Bool) (l : List γ) (m : List β)
    (h : l.length = m.length) :
    ((l.zip m).filter (fun p => f p.1)).length = (l.filter f).length := by
  have h1 : ((l.zip m).filter (fun p => f p.1)).map (·.1) = l.filter f := by
    have : (fun (p : γ × β) => f p.1) = f ∘ Prod.fst := rfl
    rw [this, ← List.filter_map, List.map_fst_zip (le_of_eq h)]
  rw [← h1, List.length_map]

theorem mergeSort_eq_of_perm {α : Type} [LinearOrder α] (l₁ l₂ : List α) (h : l₁.Perm l₂) :
    l₁.mergeSort (fun a b => decide (a ≤ b)) = l₂.mergeSort (fun a b => decide (a ≤ b)) :=
  (((List.mergeSort_perm l₁ _).trans h).trans (List.mergeSort_perm l₂ _).symm).eq_of_pairwise'
    (List.pairwise_mergeSort' (· ≤ ·) l₁) (List.pairwise_mergeSort' (· ≤ ·) l₂)

/-! ### C16: runs -/

/-- the labels that open a new run after a run of `b`s has started. -/
def runTail : Nat → List Nat → List Nat
  | _, [] => []
  | b, x :: xs => if b = x then runTail x xs else x :: runTail x xs

theorem splitByLoop_heads (l : List Nat) : ∀ (b : Nat) (g : List Nat) (acc : List (List Nat)),
    (List.splitBy.loop (· == ·) l b g acc).filterMap List.head? =
      acc.reverse.filterMap List.head? ++
        g.getLast?.getD b :: runTail b l := by
  induction l with
  | nil =>
    intro b g acc
    simp [List.splitBy.loop, runTail, List.filterMap_append, List.head?_reverse]
  | cons x xs ih =>
    intro b g acc
    by_cases hbx : b = x
    · subst hbx
      simp only [List.splitBy.loop, beq_self_eq_true, runTail, if_true]
      rw [ih]
      simp [List.getLast?_cons]
    · have hbx' : (b == x) = false := by simpa using hbx
      simp only [List.splitBy.loop, hbx', runTail, if_neg hbx]
      rw [ih]
      simp [List.filterMap_append, List.head?_reverse]

theorem splitBy_heads_cons (a : Nat) (l : List Nat) :
    ((a :: l).splitBy (· == ·)).filterMap List.head? = a :: runTail a l := by
  rw [List.splitBy, splitByLoop_heads]
  simp

theorem runsParamsAux_some (params : Nat → Nat) (b : Nat) (l : List Nat) :
    runsParamsAux params (some b) l = ((runTail b l).map params).sum := by
  induction l generalizing b with
  | nil => simp [runsParamsAux, runTail]
  | cons x xs ih =>
    by_cases hbx : b = x
    · subst hbx
      simp [runsParamsAux, runTail, ih]
    · simp [runsParamsAux, runTail, ih, hbx]

theorem runsParamsAux_congr (params params' : Nat → Nat) (last : Option Nat) (labels : List Nat)
    (h : ∀ l ∈ labels, params l = params' l) :
    runsParamsAux params last labels = runsParamsAux params' last labels := by
  induction labels generalizing last with
  | nil => rfl
  | cons x xs ih =>
    simp only [runsParamsAux]
    rw [h x List.mem_cons_self, ih _ (fun l hl => h l (List.mem_cons_of_mem _ hl))]

theorem runsParamsAux_replicate (params : Nat → Nat) (k n : Nat) :
    runsParamsAux params (some k) (List.replicate n k) = 0 := by
  induction n with
  | zero => rfl
  | succ n ih => simp [List.replicate_succ, runsParamsAux, ih]

/-! ### C16: absolute value -/

theorem absv_eq_abs {α : Type} [Field α] [LinearOrder α] [IsStrictOrderedRing α] (x : α) :
    absv x = |x| := by
  unfold absv
  split
  · next h => exact (abs_of_neg h).symm
  · next h => exact (abs_of_nonneg (not_lt.mp h)).symm

end FastTicc.Result
