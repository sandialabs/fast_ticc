/- Helper lemmas for the whole-run theorems. -/
import FastTicc.Model.Run
import FastTicc.Props.Compose
import Mathlib.Algebra.Order.Field.Basic

namespace FastTicc.Run
open FastTicc FastTicc.Viterbi FastTicc.MainLoop

-- the statements keep the section's algebraic context even where a proof needs less of it
set_option linter.unusedSectionVars false

variable {α : Type} [Field α] [LinearOrder α] [IsStrictOrderedRing α]

/-! ### the phases, spelled out -/

/-- the state after the `stats` (and the identity `opt`) phase. -/
def fit (inp : Input α) (s : St α) : St α :=
  { s with means := meanTable inp s.labels, fitted := s.labels }

/-- the state after the `relabel` phase. -/
def relab (inp : Input α) (orc : Oracles α) (s : St α) : St α :=
  { s with labels := (viterbiFast inp.K (costPoints inp orc s)).1,
           cost := (viterbiFast inp.K (costPoints inp orc s)).2,
           round := s.round + 1 }

theorem stats_eq (inp : Input α) (orc : Oracles α) (s : St α) :
    (phases inp orc).stats s =
      if hasEmpty inp.K s.labels then .error "empty-cluster" else .ok (fit inp s) := rfl

theorem opt_eq (inp : Input α) (orc : Oracles α) (s : St α) :
    (phases inp orc).opt s = .ok s := rfl

theorem relabel_eq (inp : Input α) (orc : Oracles α) (s : St α) :
    (phases inp orc).relabel s = .ok (relab inp orc s) := rfl

theorem repop_eq (inp : Input α) (orc : Oracles α) (s : St α) :
    (phases inp orc).repop s =
      match Repop.repopulate inp.K inp.m (orc.spread s.round) (orc.pick s.round)
          (orc.order s.round) s.labels with
      | some l => .ok { s with labels := l }
      | none => .error "no-donor" := rfl

theorem round_eq (inp : Input α) (orc : Oracles α) (i : Nat) (s : St α) :
    round (phases inp orc) i s =
      (if 0 < i then (phases inp orc).repop s else .ok s) >>= fun s1 =>
        if hasEmpty inp.K s1.labels then .error "empty-cluster"
        else .ok (relab inp orc (fit inp s1)) := by
  rw [MainLoop.round_eq]
  congr 1
  funext s1
  rw [stats_eq]
  split <;> rfl

theorem repop_cases (inp : Input α) (orc : Oracles α) (s : St α) :
    (phases inp orc).repop s = .error "no-donor" ∨
      ∃ l, Repop.repopulate inp.K inp.m (orc.spread s.round) (orc.pick s.round)
          (orc.order s.round) s.labels = some l ∧
        (phases inp orc).repop s = .ok { s with labels := l } := by
  rw [repop_eq]
  cases Repop.repopulate inp.K inp.m (orc.spread s.round) (orc.pick s.round)
      (orc.order s.round) s.labels with
  | none => exact .inl rfl
  | some l => exact .inr ⟨l, rfl, rfl⟩

theorem round_cases (inp : Input α) (orc : Oracles α) (i : Nat) (s : St α) :
    round (phases inp orc) i s = .error "no-donor" ∨
      ∃ s1, s1.round = s.round ∧ round (phases inp orc) i s =
        if hasEmpty inp.K s1.labels then .error "empty-cluster"
        else .ok (relab inp orc (fit inp s1)) := by
  rw [round_eq]
  by_cases hi : 0 < i
  · rw [if_pos hi]
    rcases repop_cases inp orc s with he | ⟨l, _, hl⟩
    · rw [he]; exact .inl rfl
    · rw [hl]; exact .inr ⟨{ s with labels := l }, rfl, rfl⟩
  · rw [if_neg hi]
    exact .inr ⟨s, rfl, rfl⟩

theorem round_ok_shape (inp : Input α) (orc : Oracles α) (i : Nat) (s s' : St α)
    (h : round (phases inp orc) i s = .ok s') :
    ∃ s1, s1.round = s.round ∧ s' = relab inp orc (fit inp s1) := by
  rcases round_cases inp orc i s with he | ⟨s1, hr, hs1⟩
  · rw [he] at h; cases h
  · rw [hs1] at h
    split at h
    · cases h
    · exact ⟨s1, hr, (Except.ok.inj h).symm⟩

/-! ### the cost table -/

theorem costPoints_length (inp : Input α) (orc : Oracles α) (s : St α) :
    (costPoints inp orc s).length = inp.T := by
  simp [costPoints]

theorem costPoints_ne_nil (inp : Input α) (orc : Oracles α) (s : St α) (hT : 0 < inp.T) :
    costPoints inp orc s ≠ [] :=
  List.ne_nil_of_length_pos (by rw [costPoints_length]; exact hT)

theorem costPoints_betaNonneg (inp : Input α) (orc : Oracles α) (s : St α)
    (hb : ∀ b ∈ inp.betas, 0 ≤ b) : BetaNonneg (costPoints inp orc s) := by
  intro p hp
  simp only [costPoints, List.mem_map] at hp
  obtain ⟨i, _, rfl⟩ := hp
  exact getD_of_forall_mem (P := fun b => 0 ≤ b) hb le_rfl i

theorem relab_eq_viterbi (inp : Input α) (orc : Oracles α) (s : St α) (hK : 0 < inp.K) :
    (relab inp orc s).labels = (viterbi inp.K (costPoints inp orc s)).1 ∧
      (relab inp orc s).cost = (viterbi inp.K (costPoints inp orc s)).2 := by
  rw [← viterbiFast_eq inp.K hK]
  exact ⟨rfl, rfl⟩

theorem relab_labels_valid (inp : Input α) (orc : Oracles α) (s : St α) (hK : 0 < inp.K)
    (hT : 0 < inp.T) :
    (relab inp orc s).labels.length = inp.T ∧ ∀ l ∈ (relab inp orc s).labels, l < inp.K := by
  rw [(relab_eq_viterbi inp orc s hK).1]
  refine ⟨?_, viterbi_labels_in_range inp.K hK _⟩
  rw [viterbi_length inp.K _ (costPoints_ne_nil inp orc s hT), costPoints_length]

/-! ### the run -/

/-- the round counter the oracles are indexed by is the loop's round index. -/
theorem history_round (inp : Input α) (orc : Oracles α) {limit : Nat} {init : List Nat}
    {r : MainLoop.Outcome (St α)} (h : run inp orc limit init = .ok r) :
    ∀ j, j < r.rounds → ∃ s, r.history[j]? = some s ∧ s.round = j + 1 := by
  obtain ⟨_, hn, T⟩ := run_ok _ _ h
  -- the state round `j` starts from (the initial state, then the recorded ones) has counter `j`
  have start : ∀ j, j ≤ r.rounds → ∃ s, ((⟨init, 0, 0, [], []⟩ : St α) :: r.history)[j]? = some s ∧ s.round = j := by
    intro j
    induction j with
    | zero => exact fun _ => ⟨_, rfl, rfl⟩
    | succ j ih =>
      intro hj
      obtain ⟨a, b, ha, hb, hab, _⟩ := T.step j (hn ▸ hj)
      obtain ⟨s, hs, hr⟩ := ih (Nat.le_of_succ_le hj)
      obtain rfl : a = s := Option.some.inj (ha.symm.trans hs)
      obtain ⟨s1, h1, rfl⟩ := round_ok_shape inp orc _ _ b hab
      exact ⟨_, hb, congrArg (· + 1) (h1.trans hr)⟩
  exact fun j hj => start (j + 1) hj

theorem run_final (inp : Input α) (orc : Oracles α) {limit : Nat} (hl : 1 ≤ limit) {init : List Nat}
    {r : MainLoop.Outcome (St α)} (h : run inp orc limit init = .ok r) :
    ∃ s1 : St α, r.final = relab inp orc (fit inp s1) := by
  obtain ⟨_, _, a, _, hab, _⟩ := run_last _ _ h (Nat.ne_of_gt hl)
  obtain ⟨s1, _, h2⟩ := round_ok_shape inp orc _ a r.final hab
  exact ⟨s1, h2⟩

theorem run_final_round (inp : Input α) (orc : Oracles α) {limit : Nat} (hl : 1 ≤ limit)
    {init : List Nat} {r : MainLoop.Outcome (St α)} (h : run inp orc limit init = .ok r) :
    r.final.round = r.rounds := by
  obtain ⟨h1, hb, _⟩ := run_last _ _ h (Nat.ne_of_gt hl)
  obtain ⟨s, e1, e2⟩ := history_round inp orc h (r.rounds - 1) (Nat.sub_lt h1 Nat.one_pos)
  rw [hb] at e1
  cases e1
  rw [e2, Nat.sub_add_cancel h1]

end FastTicc.Run
