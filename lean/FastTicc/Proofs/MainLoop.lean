/- Lemmas about the main-loop model (`Model/MainLoop.lean`): the round, the loop, task gathering,
order-independent writes and the ADMM outer loop (properties C09, C14, C15, C20, C02). -/
import FastTicc.Model.MainLoop
import FastTicc.Proofs.ListLemmas

namespace FastTicc.MainLoop

/-! ### `Except` -/

section Except
variable {ε α β : Type}

theorem bind_ok_iff (m : Except ε α) (f : α → Except ε β) (b : β) :
    m >>= f = .ok b ↔ ∃ a, m = .ok a ∧ f a = .ok b := by
  cases m <;> simp [bind, Except.bind]

theorem bind_error_iff (m : Except ε α) (f : α → Except ε β) (e : ε) :
    m >>= f = .error e ↔ m = .error e ∨ ∃ a, m = .ok a ∧ f a = .error e := by
  cases m <;> simp [bind, Except.bind]

theorem map_ok_iff (f : α → β) (m : Except ε α) (b : β) :
    m.map f = .ok b ↔ ∃ a, m = .ok a ∧ b = f a := by
  cases m <;> simp [Except.map, eq_comm]

theorem map_error_iff (f : α → β) (m : Except ε α) (e : ε) :
    m.map f = .error e ↔ m = .error e := by
  cases m <;> simp [Except.map]

end Except

/-! ### one round -/

section Round
variable {σ ε : Type} (P : Phases σ ε)

/-- the round translated from the source is the round C09 describes.  (Breaks — and with it every
theorem about the loop — as soon as the extracted phase order / guard differ.) -/
theorem round_eq_spec (i : Nat) (s : σ) : round P i s = roundSpec P i s := by
  simp only [round, Constants.phaseOrder, List.foldlM, applyPhase, Constants.repopGuarded, if_true,
    roundSpec, bind_pure]
  split <;> rfl

/-- `repopAfterRound` is the 0 of the source (`if i > 0`). -/
theorem round_eq (i : Nat) (s : σ) :
    round P i s = (if 0 < i then P.repop s else .ok s) >>= fun s1 =>
      P.stats s1 >>= fun s2 => P.opt s2 >>= P.relabel := by
  rw [round_eq_spec]
  by_cases hi : 0 < i
  · rw [if_pos hi]
    exact if_pos hi
  · rw [if_neg hi]
    exact if_neg hi

theorem round_ok_relabel {i : Nat} {s s' : σ} (h : round P i s = .ok s') :
    ∃ sFit, P.relabel sFit = .ok s' := by
  rw [round_eq] at h
  obtain ⟨_, _, h⟩ := (bind_ok_iff _ _ _).1 h
  obtain ⟨_, _, h⟩ := (bind_ok_iff _ _ _).1 h
  obtain ⟨sFit, _, h⟩ := (bind_ok_iff _ _ _).1 h
  exact ⟨sFit, h⟩

end Round

/-! ### the loop -/

section Loop
variable {σ ε L : Type} [DecidableEq L] (P : Phases σ ε) (labels : σ → L)

theorem loop_succ_of_ok {fuel i : Nat} {prev : Option L} {s s' : σ} {hist : List σ}
    (h : round P i s = .ok s') :
    loop P labels (fuel + 1) i prev s hist =
      if prev = some (labels s') then .ok ⟨s', i + 1, hist ++ [s']⟩
      else loop P labels fuel (i + 1) (some (labels s')) s' (hist ++ [s']) := by
  rw [loop, h]
  rfl

/-- `t` lists the states a successful loop with a budget of `fuel` rounds, about to start round `i` in
state `s`, records: round `i + j` turns the `j`-th state of `s :: t` into the `j`-th state of `t`, and
the loop stops at the first round other than round 0 that reproduces the labelling of its input, or
else when the budget is used up. -/
structure Trace (fuel i : Nat) (s : σ) (t : List σ) : Prop where
  le : t.length ≤ fuel
  ne_nil : fuel ≠ 0 → t ≠ []
  step : ∀ j, j < t.length → ∃ a b, (s :: t)[j]? = some a ∧ t[j]? = some b ∧
    round P (i + j) a = .ok b ∧
    (0 < i + j → labels a = labels b → j + 1 = t.length) ∧
    (j + 1 = t.length → t.length < fuel → 0 < i + j ∧ labels a = labels b)

/-- The loop's `prev` is a function of `(i, s)` on every configuration `run` reaches — nothing in round 0,
the labelling of the current state afterwards — and that is the only invariant the induction needs. -/
theorem loop_ok : ∀ (fuel i : Nat) (prev : Option L) (s : σ) (hist : List σ) (r : Outcome σ),
    prev = (if i = 0 then none else some (labels s)) →
    loop P labels fuel i prev s hist = .ok r →
    ∃ t, r = ⟨t.getLastD s, i + t.length, hist ++ t⟩ ∧ Trace P labels fuel i s t := by
  intro fuel
  induction fuel with
  | zero =>
    intro i prev s hist r _ h
    refine ⟨[], ?_, Nat.le_refl _, fun h => absurd rfl h, fun j hj => absurd hj (Nat.not_lt_zero _)⟩
    rw [← Except.ok.inj h, List.append_nil]
    rfl
  | succ fuel ih =>
    intro i prev s hist r hprev h
    cases hr : round P i s with
    | error e => rw [loop, hr] at h; cases h
    | ok s' =>
      rw [loop_succ_of_ok P labels hr] at h
      split at h
      next hp =>
        -- the loop breaks: this is not round 0, and the round reproduced its input's labelling
        have hi : 0 < i ∧ labels s = labels s' := by
          rw [hprev] at hp
          split at hp
          · cases hp
          · exact ⟨by omega, Option.some.inj hp⟩
        refine ⟨[s'], (Except.ok.inj h).symm, Nat.le_add_left 1 fuel, fun _ => List.cons_ne_nil _ _,
          fun j hj => ?_⟩
        obtain rfl : j = 0 := Nat.lt_one_iff.1 hj
        exact ⟨s, s', rfl, rfl, hr, fun _ _ => rfl, fun _ _ => hi⟩
      next hp =>
        obtain ⟨t, hrt, T⟩ := ih (i + 1) _ s' _ r (if_neg (Nat.succ_ne_zero i)).symm h
        refine ⟨s' :: t, ?_, Nat.succ_le_succ T.le, fun _ => List.cons_ne_nil _ _, fun j hj => ?_⟩
        · rw [hrt, List.getLastD_cons, List.append_assoc, List.length_cons, Nat.add_right_comm,
            Nat.add_assoc]
          rfl
        · cases j with
          | zero =>
            refine ⟨s, s', rfl, rfl, hr, fun hi hl => ?_, fun hl hf => ?_⟩
            · exact absurd (by rw [hprev, if_neg (Nat.ne_of_gt hi : i ≠ 0), hl]) hp
            · -- a one-element trace with fuel to spare: the recursive call had fuel but recorded nothing
              have ht : t = [] := List.length_eq_zero_iff.1 (Nat.succ.inj hl).symm
              have hf : fuel ≠ 0 := by rw [ht] at hf; exact Nat.ne_of_gt (Nat.lt_of_succ_lt_succ hf)
              exact absurd ht (T.ne_nil hf)
          | succ j =>
            obtain ⟨a, b, ha, hb, hab, h1, h2⟩ := T.step j (Nat.lt_of_succ_lt_succ hj)
            rw [Nat.add_right_comm] at hab h1 h2
            exact ⟨a, b, ha, hb, hab, fun h0 hl => congrArg (· + 1) (h1 h0 hl),
              fun hl hf => h2 (Nat.succ.inj hl) (Nat.lt_of_succ_lt_succ hf)⟩

theorem run_ok {limit : Nat} {s0 : σ} {r : Outcome σ} (h : run P labels limit s0 = .ok r) :
    r.final = r.history.getLastD s0 ∧ r.history.length = r.rounds ∧
      Trace P labels limit 0 s0 r.history := by
  obtain ⟨t, rfl, T⟩ := loop_ok P labels limit 0 none s0 [] r rfl h
  exact ⟨rfl, (Nat.zero_add _).symm, T⟩

theorem run_last {limit : Nat} {s0 : σ} {r : Outcome σ} (h : run P labels limit s0 = .ok r)
    (hl : limit ≠ 0) :
    1 ≤ r.rounds ∧ r.history[r.rounds - 1]? = some r.final ∧
      ∃ a, (s0 :: r.history)[r.rounds - 1]? = some a ∧ round P (r.rounds - 1) a = .ok r.final ∧
        (r.rounds < limit → 0 < r.rounds - 1 ∧ labels a = labels r.final) := by
  obtain ⟨hfin, hn, T⟩ := run_ok P labels h
  have hpos : 0 < r.history.length := List.length_pos_iff.2 (T.ne_nil hl)
  obtain ⟨a, b, ha, hb, hab, _, hearly⟩ := T.step (r.history.length - 1) (Nat.sub_lt hpos Nat.one_pos)
  have hb' : r.final = b := by
    rw [hfin, List.getLastD_eq_getLast?, List.getLast?_eq_getElem?, hb]
    rfl
  rw [Nat.zero_add] at hab hearly
  rw [hn, ← hb'] at hb hab hearly
  rw [hn] at ha hpos
  exact ⟨hpos, hb, a, ha, hab, fun hlt => hearly (Nat.sub_add_cancel hpos) hlt⟩

theorem run_final_relabel {limit : Nat} {s0 : σ} {r : Outcome σ} (h : run P labels limit s0 = .ok r)
    (hl : limit ≠ 0) : ∃ sFit, P.relabel sFit = .ok r.final := by
  obtain ⟨_, _, _, _, hab, _⟩ := run_last P labels h hl
  exact round_ok_relabel P hab

theorem loop_error_from_round : ∀ (fuel i : Nat) (prev : Option L) (s : σ) (hist : List σ) (e : ε),
    loop P labels fuel i prev s hist = .error e →
    ∃ j sPrev, i ≤ j ∧ j < i + fuel ∧ round P j sPrev = .error e := by
  intro fuel
  induction fuel with
  | zero =>
    intro i prev s hist e h
    cases h
  | succ fuel ih =>
    intro i prev s hist e h
    cases hr : round P i s with
    | error e' =>
      rw [loop, hr] at h
      obtain rfl : e' = e := Except.error.inj h
      exact ⟨i, s, Nat.le_refl _, Nat.lt_add_of_pos_right (Nat.succ_pos _), hr⟩
    | ok s' =>
      rw [loop_succ_of_ok P labels hr] at h
      split at h
      · cases h
      · obtain ⟨j, sPrev, h1, h2, h3⟩ := ih _ _ _ _ _ h
        rw [Nat.add_right_comm] at h2
        exact ⟨j, sPrev, Nat.le_of_succ_le h1, h2, h3⟩

end Loop

/-! ### gather -/

section Gather
variable {β ε : Type}

theorem gather_nil : gather ([] : List (Except ε β)) = .ok [] := rfl

theorem gather_cons (t : Except ε β) (ts : List (Except ε β)) :
    gather (t :: ts) = t >>= fun v => (gather ts).map (v :: ·) := by
  cases t with
  | error e => rfl
  | ok v =>
    show (gather ts >>= fun vs => pure (v :: vs)) = (gather ts).map (v :: ·)
    cases gather ts <;> rfl

end Gather

/-! ### writes in arbitrary order (`complete`, `fill`) -/

section Fill
variable {β : Type}

theorem foldl_set_length (g : Nat → β) (order : List Nat) : ∀ init : List β,
    (order.foldl (fun t i => t.set i (g i)) init).length = init.length :=
  length_foldl_set g order

theorem foldl_set_all (g : Nat → β) (init : List β) (order : List Nat)
    (hall : ∀ i, i < init.length → i ∈ order) :
    order.foldl (fun t i => t.set i (g i)) init = (List.range init.length).map g := by
  apply List.ext_getElem?
  intro j
  rw [getElem?_foldl_set]
  by_cases hj : j < init.length
  · simp [hj, hall j hj]
  · simp only [hj, and_false, if_false]
    rw [List.getElem?_eq_none (by omega), List.getElem?_eq_none (by simp; omega)]

theorem foldl_set_perm (g : Nat → β) (init : List β) {o₁ o₂ : List Nat}
    (h₁ : o₁.Perm (List.range init.length)) (h₂ : o₂.Perm (List.range init.length)) :
    o₁.foldl (fun t i => t.set i (g i)) init = o₂.foldl (fun t i => t.set i (g i)) init := by
  have all {o : List Nat} (h : o.Perm (List.range init.length)) :=
    foldl_set_all g init o fun i hi => h.mem_iff.2 (List.mem_range.2 hi)
  rw [all h₁, all h₂]

end Fill

/-! ### the ADMM outer loop -/

section Admm
variable {ν : Type} (step : Admm ν → Admm ν) (stop : Admm ν → ν → Bool)
  (rescale : Admm ν → ν → Admm ν)

theorem admmLoop_succ (fuel it : Nat) (s : Admm ν) :
    admmLoop step stop rescale (fuel + 1) it s =
      if 0 < it ∧ stop (step s) s.z then ((step s).x, it + 1)
      else admmLoop step stop rescale fuel (it + 1)
        (if 0 < it then rescale (step s) s.z else step s) := rfl

/-- The witness `sPrev` in the proof is the state the last sweep started from (the statement keeps only what it says
about the result): what is returned is the `x` of a sweep from `sPrev` — when the rule fired, or else provided the rho
update leaves `x` alone. -/
theorem admmLoop_spec : ∀ (fuel it : Nat) (s : Admm ν), fuel ≠ 0 → ∃ sPrev : Admm ν,
    it + 1 ≤ (admmLoop step stop rescale fuel it s).2 ∧
    (admmLoop step stop rescale fuel it s).2 ≤ it + fuel ∧
    (it = 0 → 2 ≤ fuel → 2 ≤ (admmLoop step stop rescale fuel it s).2) ∧
    ((admmLoop step stop rescale fuel it s).2 < it + fuel →
      (admmLoop step stop rescale fuel it s).1 = (step sPrev).x ∧
        stop (step sPrev) sPrev.z = true) ∧
    ((∀ s z, (rescale s z).x = s.x) →
      (admmLoop step stop rescale fuel it s).1 = (step sPrev).x) := by
  intro fuel
  induction fuel with
  | zero => intro it s h; exact absurd rfl h
  | succ fuel ih =>
    intro it s _
    by_cases hc : 0 < it ∧ stop (step s) s.z = true
    · rw [admmLoop_succ, if_pos hc]
      exact ⟨s, Nat.le_refl _, Nat.add_le_add_left (Nat.le_add_left 1 fuel) it,
        fun h0 => absurd (h0 ▸ hc.1) (Nat.lt_irrefl 0), fun _ => ⟨rfl, hc.2⟩, fun _ => rfl⟩
    · rw [admmLoop_succ, if_neg hc]
      rcases Nat.eq_zero_or_pos fuel with rfl | hf
      · -- the budget ends here: the state handed on is returned, rescaled unless this was sweep 0
        refine ⟨s, Nat.le_refl _, Nat.le_refl _, fun _ h => absurd h (by decide),
          fun h => absurd h (Nat.lt_irrefl _), fun hres => ?_⟩
        show (if 0 < it then rescale (step s) s.z else step s).x = (step s).x
        split
        · exact hres _ _
        · rfl
      · obtain ⟨sPrev, a1, a2, _, a4, a5⟩ :=
          ih (it + 1) (if 0 < it then rescale (step s) s.z else step s) (Nat.ne_of_gt hf)
        rw [Nat.add_right_comm] at a2 a4
        exact ⟨sPrev, Nat.le_of_succ_le a1, a2, fun _ _ => Nat.le_trans (Nat.le_add_left 2 it) a1,
          a4, a5⟩

theorem admmRun_spec (maxIter : Nat) (hm : maxIter ≠ 0) (zero : ν) : ∃ sPrev : Admm ν,
    1 ≤ (admmRun step stop rescale maxIter zero).2 ∧
    (admmRun step stop rescale maxIter zero).2 ≤ maxIter ∧
    (2 ≤ maxIter → 2 ≤ (admmRun step stop rescale maxIter zero).2) ∧
    ((admmRun step stop rescale maxIter zero).2 < maxIter →
      (admmRun step stop rescale maxIter zero).1 = (step sPrev).x ∧
        stop (step sPrev) sPrev.z = true) ∧
    ((∀ s z, (rescale s z).x = s.x) →
      (admmRun step stop rescale maxIter zero).1 = (step sPrev).x) := by
  obtain ⟨sPrev, a1, a2, a3, a4, a5⟩ :=
    admmLoop_spec step stop rescale maxIter 0 ⟨zero, zero, zero⟩ hm
  rw [Nat.zero_add] at a1 a2 a4
  exact ⟨sPrev, a1, a2, a3 rfl, a4, a5⟩

end Admm

end FastTicc.MainLoop
