/- Lemmas about the Viterbi model (`Model/Viterbi.lean`): property C01, the cost halves of C06 / C07, and the model side of the
translated labelling kernel (`Proofs/ViterbiKernel.lean`). -/
import FastTicc.Model.Viterbi
import FastTicc.Proofs.ListLemmas
import Mathlib.Algebra.Order.Group.Defs

namespace FastTicc.Viterbi

-- the statements keep the section's algebraic context even where a proof needs less of it
set_option linter.unusedSectionVars false

/-! ### lemmas that hold for the bare operations used by the model -/

section General
variable {α : Type} [Add α] [Sub α] [LT α] [DecidableLT α] [Zero α]

theorem argminUpTo_le (f : Nat → α) : ∀ n, argminUpTo f n ≤ n
  | 0 => by simp [argminUpTo]
  | n + 1 => by
    simp only [argminUpTo]
    split
    · exact Nat.le_refl _
    · exact Nat.le_succ_of_le (argminUpTo_le f n)

theorem argmin_lt (f : Nat → α) {K : Nat} (hK : 0 < K) : argmin f K < K :=
  Nat.lt_of_le_sub_one hK (argminUpTo_le f (K - 1))

theorem argminUpTo_congr {f g : Nat → α} :
    ∀ n, (∀ c ≤ n, f c = g c) → argminUpTo f n = argminUpTo g n
  | 0, _ => rfl
  | n + 1, h => by
    have ih := argminUpTo_congr n (fun c hc => h c (Nat.le_succ_of_le hc))
    have ha : f (argminUpTo g n) = g (argminUpTo g n) :=
      h _ (Nat.le_succ_of_le (argminUpTo_le g n))
    simp only [argminUpTo]
    rw [ih, ha, h (n + 1) (Nat.le_refl _)]

theorem argmin_congr {f g : Nat → α} {K : Nat} (hK : 0 < K) (h : ∀ c < K, f c = g c) :
    argmin f K = argmin g K :=
  argminUpTo_congr (K - 1) (fun c hc => h c (Nat.lt_of_le_sub_one hK hc))

theorem step_congr {f g : Nat → α} {K : Nat} (hK : 0 < K) (h : ∀ c < K, f c = g c)
    (r : Nat → α) (b : α) (c : Nat) (hc : c < K) :
    stepFuture K f r b c = stepFuture K g r b c ∧ stepPath K f r b c = stepPath K g r b c := by
  have htot : ∀ c < K, totalVals f r b c = totalVals g r b c := fun c hc => by
    simp only [totalVals, h c hc]
  simp only [stepFuture, stepPath]
  rw [argmin_congr hK htot, htot c hc, htot _ (argmin_lt _ hK)]
  exact ⟨rfl, rfl⟩

theorem stepPath_lt (K : Nat) (hK : 0 < K) (fut' row' : Nat → α) (b : α) (c : Nat)
    (hc : c < K) : stepPath K fut' row' b c < K := by
  simp only [stepPath]
  split
  · exact argmin_lt _ hK
  · exact hc

theorem back_fst_cons_cons (K : Nat) (p q : (Nat → α) × α) (rest : List ((Nat → α) × α)) :
    (back K (p :: q :: rest)).1 = stepFuture K (back K (q :: rest)).1 q.1 p.2 := rfl

theorem back_snd_cons_cons (K : Nat) (p q : (Nat → α) × α) (rest : List ((Nat → α) × α)) :
    (back K (p :: q :: rest)).2
      = stepPath K (back K (q :: rest)).1 q.1 p.2 :: (back K (q :: rest)).2 := rfl

theorem viterbi_cons (K : Nat) (p : (Nat → α) × α) (rest : List ((Nat → α) × α)) :
    viterbi K (p :: rest)
      = (argmin (fun c => (back K (p :: rest)).1 c + p.1 c) K
            :: follow (back K (p :: rest)).2 (argmin (fun c => (back K (p :: rest)).1 c + p.1 c) K),
          (back K (p :: rest)).1 (argmin (fun c => (back K (p :: rest)).1 c + p.1 c) K)
            + p.1 (argmin (fun c => (back K (p :: rest)).1 c + p.1 c) K)) := rfl

/-! ### shape of the result -/

theorem follow_length : ∀ (ps : List (Nat → Nat)) (c : Nat), (follow ps c).length = ps.length
  | [], _ => rfl
  | p :: ps, c => by rw [follow, List.length_cons, follow_length ps (p c), List.length_cons]

theorem back_snd_length (K : Nat) :
    ∀ pts : List ((Nat → α) × α), (back K pts).2.length = pts.length - 1
  | [] => rfl
  | [_] => rfl
  | p :: q :: rest => by
    rw [back_snd_cons_cons, List.length_cons, back_snd_length K (q :: rest)]
    rfl

theorem follow_back_lt (K : Nat) (hK : 0 < K) :
    ∀ (pts : List ((Nat → α) × α)) (l : Nat), l < K → ∀ x ∈ follow (back K pts).2 l, x < K
  | [], _, _ => by simp [back, follow]
  | [_], _, _ => by simp [back, follow]
  | p :: q :: rest, l, hl => by
    rw [back_snd_cons_cons, follow]
    intro x hx
    rcases List.mem_cons.1 hx with rfl | hx
    · exact stepPath_lt K hK _ _ _ l hl
    · exact follow_back_lt K hK (q :: rest) _ (stepPath_lt K hK _ _ _ l hl) x hx

theorem backFast_spec (K : Nat) (hK : 0 < K) :
    ∀ pts : List ((Nat → α) × α),
      (∀ c < K, (backFast K pts).1.getD c 0 = (back K pts).1 c) ∧
      (∀ l < K, follow ((backFast K pts).2.map (fun row c => row.getD c 0)) l
                  = follow (back K pts).2 l)
  | [] => ⟨fun c _ => getD_replicate_self 0 K c, fun _ _ => rfl⟩
  | [_] => ⟨fun c _ => getD_replicate_self 0 K c, fun _ _ => rfl⟩
  | p :: q :: rest => by
    obtain ⟨ih1, ih2⟩ := backFast_spec K hK (q :: rest)
    constructor
    · intro c hc
      simp only [backFast, back]
      rw [getD_map_range _ _ hc]
      exact (step_congr hK ih1 q.1 p.2 c hc).1
    · intro l hl
      have hrow : ((List.range K).map
            (stepPath K (fun c => (backFast K (q :: rest)).1.getD c 0) q.1 p.2)).getD l 0
          = stepPath K (back K (q :: rest)).1 q.1 p.2 l := by
        rw [getD_map_range _ _ hl]
        exact (step_congr hK ih1 q.1 p.2 l hl).2
      simp only [backFast, back, List.map_cons, follow]
      rw [hrow, ih2 _ (stepPath_lt K hK _ _ _ l hl)]

/-- `0 < K` is needed: for `K = 0` the list rows are empty and read back as `0`. -/
theorem viterbiFast_eq_viterbi (K : Nat) (hK : 0 < K) (pts : List ((Nat → α) × α)) :
    viterbiFast K pts = viterbi K pts := by
  cases pts with
  | nil => rfl
  | cons p rest =>
    obtain ⟨h1, h2⟩ := backFast_spec K hK (p :: rest)
    have hstart : argmin (fun c => (backFast K (p :: rest)).1.getD c 0 + p.1 c) K
        = argmin (fun c => (back K (p :: rest)).1 c + p.1 c) K :=
      argmin_congr hK (fun c hc => by simp only [h1 c hc])
    have hlt := argmin_lt (fun c => (back K (p :: rest)).1 c + p.1 c) hK
    simp only [viterbiFast, viterbi]
    rw [hstart, h2 _ hlt, h1 _ hlt]

end General

variable {α : Type} [AddCommGroup α] [LinearOrder α] [IsOrderedAddMonoid α]

/-! ### `argmin` -/

theorem argminUpTo_min (f : Nat → α) : ∀ n c, c ≤ n → f (argminUpTo f n) ≤ f c
  | 0, c, h => by
    obtain rfl : c = 0 := Nat.le_zero.mp h
    simp [argminUpTo]
  | n + 1, c, h => by
    simp only [argminUpTo]
    rcases Nat.lt_or_ge c (n + 1) with hlt | hge
    · have ih := argminUpTo_min f n c (Nat.le_of_lt_succ hlt)
      split
      · next hlt' => exact le_trans (le_of_lt hlt') ih
      · exact ih
    · obtain rfl : c = n + 1 := le_antisymm h hge
      split
      · exact le_rfl
      · next hn => exact not_lt.mp hn

theorem argmin_min (f : Nat → α) {K : Nat} (c : Nat) (hc : c < K) :
    f (argmin f K) ≤ f c :=
  argminUpTo_min f (K - 1) c (Nat.le_sub_one_of_lt hc)

/-! ### one backward step -/

theorem totalVals_sub (fut' row' : Nat → α) (b : α) (c : Nat) :
    totalVals fut' row' b c - b = fut' c + row' c := by
  simp [totalVals]

theorem stepFuture_le (K : Nat) (fut' row' : Nat → α) (b : α) (c c' : Nat) (hc' : c' < K) :
    stepFuture K fut' row' b c ≤ fut' c' + row' c' + (if c = c' then 0 else b) := by
  have hmin := argmin_min (totalVals fut' row' b) c' hc'
  simp only [stepFuture]
  rw [totalVals_sub]
  by_cases hcc : c = c'
  · subst hcc
    simp only [if_true, add_zero]
    split
    · next h => exact le_of_lt h
    · exact le_rfl
  · simp only [if_neg hcc]
    have htot : totalVals fut' row' b c' = fut' c' + row' c' + b := rfl
    rw [← htot]
    split
    · exact hmin
    · next h => exact le_trans (not_lt.mp h) hmin

theorem stepFuture_eq (K : Nat) (fut' row' : Nat → α) (b : α) (hb : 0 ≤ b) (c : Nat) :
    stepFuture K fut' row' b c
      = fut' (stepPath K fut' row' b c) + row' (stepPath K fut' row' b c)
        + (if c = stepPath K fut' row' b c then 0 else b) := by
  simp only [stepFuture, stepPath, totalVals_sub]
  split
  · next h =>
    rw [if_neg]
    · rfl
    · -- switching to `c` itself would cost `b ≥ 0` more than staying
      rintro rfl
      exact absurd h (not_lt.mpr (le_add_of_nonneg_right hb))
  · rw [if_pos rfl, add_zero]

/-! ### specification unfolding -/

/-- the first point's share of the total cost, summed in the order the backward pass uses. -/
theorem totalCost_cons_cons (p q : (Nat → α) × α) (rest : List ((Nat → α) × α))
    (l l' : Nat) (ls : List Nat) :
    totalCost (p :: q :: rest) (l :: l' :: ls)
      = totalCost (q :: rest) (l' :: ls) + (if l = l' then 0 else p.2) + p.1 l := by
  simp only [totalCost, assignCost, switchCost]
  ac_rfl

theorem totalCost_singleton (p : (Nat → α) × α) (l : Nat) :
    totalCost [p] [l] = p.1 l := by
  simp [totalCost, assignCost, switchCost]

/-! ### the suffix invariant -/

/-- `future[i][l] + cost[i][l]` is the total cost of the labelling obtained by starting
at `l` and following the path matrix. -/
theorem back_cost_eq (K : Nat) (p : (Nat → α) × α) (rest : List ((Nat → α) × α))
    (hb : ∀ x ∈ p :: rest, 0 ≤ x.2) (l : Nat) :
    (back K (p :: rest)).1 l + p.1 l
      = totalCost (p :: rest) (l :: follow (back K (p :: rest)).2 l) := by
  induction rest generalizing p l with
  | nil =>
    rw [show follow (back K [p]).2 l = [] from rfl, totalCost_singleton]
    exact zero_add _
  | cons q rest ih =>
    rw [back_fst_cons_cons, back_snd_cons_cons, follow, totalCost_cons_cons,
      ← ih q (fun x hx => hb x (List.mem_cons_of_mem _ hx)),
      stepFuture_eq K _ _ _ (hb p List.mem_cons_self) l]

theorem back_cost_le (K : Nat) (p : (Nat → α) × α) (rest : List ((Nat → α) × α)) (l : Nat)
    (ls : List Nat) (hlen : ls.length = rest.length) (hlt : ∀ x ∈ ls, x < K) :
    (back K (p :: rest)).1 l + p.1 l ≤ totalCost (p :: rest) (l :: ls) := by
  induction rest generalizing p l ls with
  | nil =>
    obtain rfl : ls = [] := List.length_eq_zero_iff.1 hlen
    rw [totalCost_singleton]
    exact (zero_add _).le
  | cons q rest ih =>
    obtain ⟨l', ls, rfl⟩ := List.exists_cons_of_length_eq_add_one hlen
    rw [back_fst_cons_cons, totalCost_cons_cons]
    exact add_le_add_left
      ((stepFuture_le K _ _ _ l l' (hlt l' List.mem_cons_self)).trans
        (add_le_add_left (ih q l' ls (Nat.succ.inj hlen)
          (fun x hx => hlt x (List.mem_cons_of_mem _ hx))) _)) _

/-! ### consequences for `viterbi` -/

theorem viterbi_cost_lower_bound (K : Nat) (pts : List ((Nat → α) × α))
    (q : List Nat) (hlen : q.length = pts.length) (hlt : ∀ l ∈ q, l < K) :
    (viterbi K pts).2 ≤ totalCost pts q := by
  cases pts with
  | nil =>
    obtain rfl : q = [] := List.length_eq_zero_iff.mp hlen
    simp [viterbi, totalCost, assignCost, switchCost]
  | cons p rest =>
    obtain ⟨l, ls, rfl⟩ := List.exists_cons_of_length_eq_add_one hlen
    rw [viterbi_cons]
    exact (argmin_min (fun c => (back K (p :: rest)).1 c + p.1 c) l (hlt l List.mem_cons_self)).trans
      (back_cost_le K p rest l ls (Nat.succ.inj hlen) (fun x hx => hlt x (List.mem_cons_of_mem _ hx)))

theorem withScalarBeta_eq (rows : List (Nat → α)) (b : α) :
    withScalarBeta rows b = withVectorBeta rows (List.replicate rows.length b) := by
  unfold withScalarBeta withVectorBeta
  induction rows with
  | nil => rfl
  | cons r rs ih => simp [List.replicate_succ, ih]

end FastTicc.Viterbi
