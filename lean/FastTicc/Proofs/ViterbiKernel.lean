/-
The three loops of the labelling kernel (`assign_point_cluster_labels`, tied to the model in `Props/TrViterbi.lean`) against
the Viterbi model of `Model/Viterbi.lean`.  The loop bodies are named (`innerBody`, `outerBody`, `pathBody`; the generated
text is literally these, `Translated.gen_viterbi_structured`).  The inner loop over the clusters of one point fills row `i`
of the path matrix and of the future costs (a closed record, as for every table filled in index order); one round of the
backward loop therefore writes the model's `stepPath` / `stepFuture` of the row below (`outerBody_eq`); the forward loop
follows the path rows from the start label (`labs`).
-/
import FastTicc.Proofs.Translated
import FastTicc.Model.Viterbi
import FastTicc.Proofs.Viterbi
open FastTicc

namespace FastTicc.PyLemmas

/-- labels along a path matrix given as a function of the row index -/
def labs (g : Nat → Nat → Nat) (c : Nat) : Nat → Nat
  | 0 => c
  | j + 1 => g j (labs g c j)

theorem follow_map_range (g : Nat → Nat → Nat) (c : Nat) : ∀ n r,
    labs g c r :: Viterbi.follow ((List.range' r n).map g) (labs g c r) = (List.range' r (n + 1)).map (labs g c)
  | 0, _ => rfl
  | n + 1, r => by
    rw [List.range'_succ, List.map_cons, Viterbi.follow, List.range'_succ (n := n + 1), List.map_cons]
    exact congrArg (labs g c r :: ·) (follow_map_range g c n (r + 1))

section
variable {α : Type} [Zero α] [Add α] [Sub α] [LT α] [DecidableLT α]

def innerBody (i : Int) (total : Py.Arr1 α) (am : Int) (bi : α) (cluster : Int)
    (s : Py.Arr2 Int × Py.Arr2 α) : Py.Arr2 Int × Py.Arr2 α :=
  if decide (total.get1 am < total.get1 cluster - bi) then
    (s.1.set i cluster am, s.2.set i cluster (total.get1 am))
  else (s.1.set i cluster cluster, s.2.set i cluster (total.get1 cluster - bi))

def outerBody (cost : Py.Arr2 α) (lsc : Py.Arr1 α) (K : Int) (i : Int)
    (s : Py.Arr2 Int × Py.Arr2 α) : Py.Arr2 Int × Py.Arr2 α :=
  let total := Py.Arr1.addScalar (Py.Arr1.add (s.2.row (i + 1)) (cost.row (i + 1))) (lsc.get1 i)
  Py.forEach (Py.range 0 K 1) s (innerBody i total total.argmin (lsc.get1 i))

def pathBody (pm : Py.Arr2 Int) (i : Int) (path : List Int) : List Int :=
  Py.setItem path (i + 1) (pm.get2 i (Py.getItem path i))

theorem pyArgminUpTo_eq (f : Nat → α) (n : Nat) : Py.Arr1.argminUpTo f n = Viterbi.argminUpTo f n := by
  induction n with
  | zero => rfl
  | succ k ih => simp only [Py.Arr1.argminUpTo, Viterbi.argminUpTo, ih]

omit [Zero α] [Add α] in
theorem innerBody_eq (i : Int) (total : Py.Arr1 α) (am : Int) (bi : α) (c : Int) (s : Py.Arr2 Int × Py.Arr2 α) :
    innerBody i total am bi c s
      = (s.1.set i c (if total.get1 am < total.get1 c - bi then am else c),
         s.2.set i c (if total.get1 am < total.get1 c - bi then total.get1 am else total.get1 c - bi)) := by
  unfold innerBody
  by_cases h : total.get1 am < total.get1 c - bi
  · simp only [h, decide_true, if_true]
  · simp only [h, decide_false, Bool.false_eq_true, if_false]

omit [Zero α] [Add α] in
theorem inner_loop_eq (i a : Nat) (total : Py.Arr1 α) (bi : α) (pm : Py.Arr2 Int) (fut : Py.Arr2 α) (m : Nat) :
    (List.range m).foldl (fun s (c : Nat) => innerBody (i : Int) total (a : Int) bi (c : Int) s) (pm, fut)
      = (⟨pm.rows, pm.cols, fun r c =>
            if r = i ∧ c < m then (if total.get a < total.get c - bi then (a : Int) else (c : Int)) else pm.get r c⟩,
         ⟨fut.rows, fut.cols, fun r c =>
            if r = i ∧ c < m then (if total.get a < total.get c - bi then total.get a else total.get c - bi)
            else fut.get r c⟩) := by
  -- each table is written on its own: two `fill_row`s
  simp only [innerBody_eq, Py.Arr1.get1, idx_nat]
  exact Prod.ext ((List.foldl_hom Prod.fst fun _ _ => rfl).symm.trans (fill_row _ pm i m))
    ((List.foldl_hom Prod.snd fun _ _ => rfl).symm.trans (fill_row _ fut i m))

/-- the inner loop over the clusters of one point -/
theorem inner_loop (T K i a : Nat) (total : Py.Arr1 α) (bi : α) (pm : Py.Arr2 Int) (fut : Py.Arr2 α)
    (hpm : pm.rows = T ∧ pm.cols = K) (hfut : fut.rows = T ∧ fut.cols = K) (htot : total.n = K) (m : Nat) :
    ((List.range m).foldl (fun s (c : Nat) => innerBody (i : Int) total (a : Int) bi (c : Int) s) (pm, fut)).1.rows = T ∧
    ((List.range m).foldl (fun s (c : Nat) => innerBody (i : Int) total (a : Int) bi (c : Int) s) (pm, fut)).1.cols = K ∧
    ((List.range m).foldl (fun s (c : Nat) => innerBody (i : Int) total (a : Int) bi (c : Int) s) (pm, fut)).2.rows = T ∧
    ((List.range m).foldl (fun s (c : Nat) => innerBody (i : Int) total (a : Int) bi (c : Int) s) (pm, fut)).2.cols = K ∧
    (∀ r c, ((List.range m).foldl (fun s (c : Nat) => innerBody (i : Int) total (a : Int) bi (c : Int) s) (pm, fut)).1.get r c
        = if r = i ∧ c < m then (if total.get a < total.get c - bi then (a : Int) else (c : Int)) else pm.get r c) ∧
    (∀ r c, ((List.range m).foldl (fun s (c : Nat) => innerBody (i : Int) total (a : Int) bi (c : Int) s) (pm, fut)).2.get r c
        = if r = i ∧ c < m then (if total.get a < total.get c - bi then total.get a else total.get c - bi)
          else fut.get r c) := by
  rw [inner_loop_eq]
  exact ⟨hpm.1, hpm.2, hfut.1, hfut.2, fun _ _ => rfl, fun _ _ => rfl⟩

/-- the points of the model: cost row `i` and the switching cost of the pair `(i, i+1)` as the kernel reads it -/
def ptsOf (cost : Py.Arr2 α) (lsc : Py.Arr1 α) : List ((Nat → α) × α) :=
  (List.range cost.rows).map (fun i => (cost.get i, lsc.get i))

omit [Zero α] [Add α] [Sub α] [LT α] [DecidableLT α] in
theorem ptsOf_drop (cost : Py.Arr2 α) (lsc : Py.Arr1 α) (r : Nat) (h : r < cost.rows) :
    (ptsOf cost lsc).drop r = (cost.get r, lsc.get r) :: (ptsOf cost lsc).drop (r + 1) := by
  unfold ptsOf
  rw [List.drop_eq_getElem_cons (by simpa using h)]
  simp

/-- row `r` of the model's future-cost table -/
def futM (cost : Py.Arr2 α) (lsc : Py.Arr1 α) (r : Nat) : Nat → α :=
  (Viterbi.back cost.cols ((ptsOf cost lsc).drop r)).1

/-- path matrix rows as a function of the row index -/
def pathRow (cost : Py.Arr2 α) (lsc : Py.Arr1 α) (j : Nat) : Nat → Nat :=
  Viterbi.stepPath cost.cols (futM cost lsc (j + 1)) (cost.get (j + 1)) (lsc.get j)

theorem back_drop_last (cost : Py.Arr2 α) (lsc : Py.Arr1 α) (r : Nat) (h : r + 1 = cost.rows) :
    Viterbi.back cost.cols ((ptsOf cost lsc).drop r) = (fun _ => 0, []) := by
  rw [ptsOf_drop cost lsc r (Nat.lt_of_lt_of_eq (Nat.lt_succ_self r) h), h, List.drop_of_length_le (by simp [ptsOf])]
  rfl

theorem futM_last (cost : Py.Arr2 α) (lsc : Py.Arr1 α) (r : Nat) (h : r + 1 = cost.rows) (c : Nat) :
    futM cost lsc r c = 0 := by
  rw [futM, back_drop_last cost lsc r h]

theorem back_drop (cost : Py.Arr2 α) (lsc : Py.Arr1 α) (r : Nat) (h : r + 1 < cost.rows) :
    Viterbi.back cost.cols ((ptsOf cost lsc).drop r)
      = (Viterbi.stepFuture cost.cols (futM cost lsc (r + 1)) (cost.get (r + 1)) (lsc.get r),
         pathRow cost lsc r :: (Viterbi.back cost.cols ((ptsOf cost lsc).drop (r + 1))).2) := by
  unfold pathRow futM
  rw [ptsOf_drop cost lsc r (Nat.lt_of_succ_lt h), ptsOf_drop cost lsc (r + 1) h]
  rfl

theorem futM_step (cost : Py.Arr2 α) (lsc : Py.Arr1 α) (r : Nat) (h : r + 1 < cost.rows) :
    futM cost lsc r = Viterbi.stepFuture cost.cols (futM cost lsc (r + 1)) (cost.get (r + 1)) (lsc.get r) := by
  rw [futM, back_drop cost lsc r h]

theorem argmin_eq (a : Py.Arr1 α) (f : Nat → α) (K : Nat) (hn : a.n = K) (hK : 0 < K) (h : ∀ c, c < K → a.get c = f c) :
    a.argmin = ((Viterbi.argmin f K : Nat) : Int) := by
  rw [← Viterbi.argmin_congr hK h, Py.Arr1.argmin, hn, pyArgminUpTo_eq]
  rfl

theorem outerBody_eq (cost : Py.Arr2 α) (lsc : Py.Arr1 α) (hK : 0 < cost.cols) (i : Nat) (hi : i + 1 < cost.rows)
    (s : Py.Arr2 Int × Py.Arr2 α) (hc : s.2.cols = cost.cols)
    (hfut : ∀ c, c < cost.cols → s.2.get (i + 1) c = futM cost lsc (i + 1) c) :
    outerBody cost lsc (cost.cols : Int) (i : Int) s
      = (⟨s.1.rows, s.1.cols, fun r c =>
            if r = i ∧ c < cost.cols then ((pathRow cost lsc i c : Nat) : Int) else s.1.get r c⟩,
         ⟨s.2.rows, s.2.cols, fun r c => if r = i ∧ c < cost.cols then futM cost lsc i c else s.2.get r c⟩) := by
  simp only [outerBody]
  rw [forEach_range]
  -- the vector of totals is `totalVals` on the stored row below, so the inner loop writes `stepPath` / `stepFuture` of
  -- that row; a step reads the row below on `[0, K)` only (`step_congr`), where it is the model's
  generalize htotal : (Py.Arr1.addScalar _ _ : Py.Arr1 α) = total
  have htn : total.n = cost.cols := by rw [← htotal]; exact hc
  have htot : total.get = Viterbi.totalVals (s.2.get (i + 1)) (cost.get (i + 1)) (lsc.get i) := by
    rw [← htotal]
    funext c
    simp only [Viterbi.totalVals, Py.Arr1.addScalar, Py.Arr1.add, Py.Arr2.row, Py.Arr1.get1, ← Nat.cast_add_one, idx_nat]
  have hb : lsc.get1 (i : Int) = lsc.get i := by rw [Py.Arr1.get1, idx_nat]
  rw [argmin_eq total _ _ htn hK (fun c _ => congrFun htot c), inner_loop_eq, htot, hb]
  refine congrArg₂ Prod.mk (congrArg _ (funext₂ fun r c => ?_)) (congrArg _ (funext₂ fun r c => ?_))
  · refine ite_congr rfl (fun h => ?_) (fun _ => rfl)
    rw [pathRow, ← (Viterbi.step_congr hK hfut _ _ c h.2).2, Viterbi.stepPath, Nat.cast_ite]
  · refine ite_congr rfl (fun h => ?_) (fun _ => rfl)
    rw [futM_step cost lsc i hi, ← (Viterbi.step_congr hK hfut _ _ c h.2).1, Viterbi.stepFuture]

/-- state after the first `m` iterations of the backward loop (rows `T-2, …, T-1-m`) -/
def outerState (cost : Py.Arr2 α) (lsc : Py.Arr1 α) (m : Nat) : Py.Arr2 Int × Py.Arr2 α :=
  (List.range m).foldl
    (fun s (k : Nat) => outerBody cost lsc (cost.cols : Int) (((cost.rows - 1 - 1 - k : Nat) : Nat) : Int) s)
    (Py.Arr2.const cost.rows cost.cols (0 : Int), Py.Arr2.const cost.rows cost.cols (0 : α))

theorem outer_loop (cost : Py.Arr2 α) (lsc : Py.Arr1 α) (hl : lsc.n = cost.rows) (hK : 0 < cost.cols) (m : Nat)
    (hm : m + 1 ≤ cost.rows) :
    (outerState cost lsc m).1.rows = cost.rows ∧ (outerState cost lsc m).1.cols = cost.cols ∧
    (outerState cost lsc m).2.rows = cost.rows ∧ (outerState cost lsc m).2.cols = cost.cols ∧
    (∀ r c, cost.rows - 1 - m ≤ r → r + 1 ≤ cost.rows → c < cost.cols →
        (outerState cost lsc m).2.get r c = futM cost lsc r c) ∧
    (∀ r c, cost.rows - 1 - m ≤ r → r + 1 < cost.rows → c < cost.cols →
        (outerState cost lsc m).1.get r c
          = ((Viterbi.stepPath cost.cols (futM cost lsc (r + 1)) (cost.get (r + 1)) (lsc.get r) c : Nat) : Int)) := by
  induction m with
  | zero =>
    refine ⟨Int.toNat_natCast _, Int.toNat_natCast _, Int.toNat_natCast _, Int.toNat_natCast _, ?_, ?_⟩
    -- before the first round only the last row `r = T - 1` is in range: future costs `0` there, and no path row
    · intro r c (h1 : cost.rows - 1 ≤ r) h2 _
      exact (futM_last cost lsc r (Nat.le_antisymm h2 (Nat.le_add_of_sub_le h1)) c).symm
    · intro r c (h1 : cost.rows - 1 ≤ r) h2 _
      exact absurd h2 (Nat.not_lt.mpr (Nat.le_add_of_sub_le h1))
  | succ k ih =>
    obtain ⟨h1, h2, h3, h4, h5, h6⟩ := ih (Nat.le_of_succ_le hm)
    -- round `k` works on row `i = T - 2 - k`; the rows from `i + 1` on are done
    obtain ⟨i, hi⟩ : ∃ i, cost.rows - 1 - k = i + 1 := ⟨cost.rows - 1 - k - 1, by omega⟩
    have hi1 : cost.rows - 1 - 1 - k = i := by omega
    have hi2 : cost.rows - 1 - (k + 1) = i := by omega
    have hlt : i + 1 < cost.rows := by omega
    rw [hi] at h5 h6
    have hstep : outerState cost lsc (k + 1) = outerBody cost lsc (cost.cols : Int) (i : Int) (outerState cost lsc k) := by
      simp only [outerState, List.range_succ, List.foldl_append, List.foldl_cons, List.foldl_nil, hi1]
    rw [hstep, hi2, outerBody_eq cost lsc hK i hlt _ h4 (fun c hc => h5 (i + 1) c (Nat.le_refl _) hlt hc)]
    refine ⟨h1, h2, h3, h4, fun r c hr1 hr2 hc => ?_, fun r c hr1 hr2 hc => ?_⟩
    · show (if r = i ∧ c < cost.cols then futM cost lsc i c else _) = _
      rcases Nat.eq_or_lt_of_le hr1 with rfl | hlt
      · rw [if_pos ⟨rfl, hc⟩]
      · rw [if_neg (fun h => Nat.ne_of_gt hlt h.1)]
        exact h5 r c hlt hr2 hc
    · show (if r = i ∧ c < cost.cols then ((pathRow cost lsc i c : Nat) : Int) else _) = _
      rcases Nat.eq_or_lt_of_le hr1 with rfl | hlt
      · rw [if_pos ⟨rfl, hc⟩, pathRow]
      · rw [if_neg (fun h => Nat.ne_of_gt hlt h.1)]
        exact h6 r c hlt hr2 hc

theorem back_snd_eq (cost : Py.Arr2 α) (lsc : Py.Arr1 α) (n : Nat) : ∀ r, r + 1 + n = cost.rows →
    (Viterbi.back cost.cols ((ptsOf cost lsc).drop r)).2 = (List.range' r n).map (pathRow cost lsc) := by
  induction n with
  | zero =>
    intro r h
    rw [back_drop_last cost lsc r h]
    rfl
  | succ k ih =>
    intro r h
    rw [back_drop cost lsc r (by omega), ih (r + 1) (by omega), List.range'_succ, List.map_cons]

theorem labs_lt (cost : Py.Arr2 α) (lsc : Py.Arr1 α) (hK : 0 < cost.cols) (c : Nat) (hc : c < cost.cols) :
    ∀ j, labs (pathRow cost lsc) c j < cost.cols
  | 0 => hc
  | j + 1 => Viterbi.stepPath_lt _ hK _ _ _ _ (labs_lt cost lsc hK c hc j)

theorem path_loop (cost : Py.Arr2 α) (lsc : Py.Arr1 α) (pm : Py.Arr2 Int) (hK : 0 < cost.cols)
    (hpm : pm.rows = cost.rows ∧ pm.cols = cost.cols)
    (hget : ∀ r c, r + 1 < cost.rows → c < cost.cols → pm.get r c = ((pathRow cost lsc r c : Nat) : Int))
    (c0 : Nat) (hc0 : c0 < cost.cols) (m : Nat) (hm : m + 1 ≤ cost.rows) :
    (List.range m).foldl (fun p (k : Nat) => pathBody pm (k : Int) p)
        ((List.range cost.rows).map (fun j => if j ≤ 0 then ((labs (pathRow cost lsc) c0 j : Nat) : Int) else -1))
      = (List.range cost.rows).map (fun j => if j ≤ m then ((labs (pathRow cost lsc) c0 j : Nat) : Int) else -1) := by
  refine foldl_range_eq _ (fun m => (List.range cost.rows).map
    (fun j => if j ≤ m then ((labs (pathRow cost lsc) c0 j : Nat) : Int) else -1)) _ m rfl (fun k hk => ?_)
  -- round `k` reads label `k` of the path and writes label `k + 1`
  have hk1 : k + 1 < cost.rows := Nat.lt_of_lt_of_le (Nat.succ_lt_succ hk) hm
  have hlt := labs_lt cost lsc hK c0 hc0 k
  have hval : pm.get2 (k : Int) ((labs (pathRow cost lsc) c0 k : Nat) : Int)
      = ((labs (pathRow cost lsc) c0 (k + 1) : Nat) : Int) := by
    simp only [Py.Arr2.get2, idx_nat]
    exact hget k _ hk1 hlt
  simp only [pathBody]
  rw [getItem_map_range _ _ _ (Nat.lt_of_succ_lt hk1), if_pos (Nat.le_refl k), hval, ← Nat.cast_add_one,
    setItem_map_range]
  exact List.map_congr_left fun j _ => ite_merge (Nat.le_succ_iff.trans Or.comm) (fun h => by rw [h])


theorem viterbi_ptsOf (cost : Py.Arr2 α) (lsc : Py.Arr1 α) (hT : 0 < cost.rows) (start : Nat)
    (hs : Viterbi.argmin (fun c => futM cost lsc 0 c + cost.get 0 c) cost.cols = start) :
    Viterbi.viterbi cost.cols (ptsOf cost lsc)
      = ((List.range cost.rows).map (labs (pathRow cost lsc) start), futM cost lsc 0 start + cost.get 0 start) := by
  obtain ⟨n, hn⟩ : ∃ n, cost.rows = n + 1 := ⟨_, (Nat.sub_add_cancel hT).symm⟩
  have hback : Viterbi.back cost.cols (ptsOf cost lsc) = (futM cost lsc 0, (List.range' 0 n).map (pathRow cost lsc)) :=
    Prod.ext rfl (back_snd_eq cost lsc n 0 ((Nat.add_comm _ n).trans hn.symm))
  have hcons : ptsOf cost lsc = (cost.get 0, lsc.get 0) :: (ptsOf cost lsc).drop 1 := ptsOf_drop cost lsc 0 hT
  rw [hcons, Viterbi.viterbi_cons, ← hcons, hback, hs, hn, List.range_eq_range']
  exact congrArg (·, _) (follow_map_range _ start n 0)

theorem lsc_n (T : Nat) (sov : Py.ScalarOrVec α) :
    (Py.broadcastAdd (Py.Arr1.const (T : Int) (0 : α)) sov).n = T := by
  cases sov <;> simp [Py.broadcastAdd, Py.Arr1.addScalar, Py.Arr1.add, Py.Arr1.const]

end

end FastTicc.PyLemmas
