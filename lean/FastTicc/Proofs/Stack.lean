/- Helper lemmas for properties C04, C07 (mask), C10; the closed forms by prefix sums are what the translated
`split_joint_labels` is compared with (`Props/TrSplit.lean`). -/
import FastTicc.Model.Stack
import FastTicc.Proofs.ListLemmas

namespace FastTicc.Stack

/-! ### stack -/

/-- a window starting at one of the `T + 1 - W` rows of the stacked array fits into the `T` input rows. -/
theorem add_le_of_lt_windows {i W T : Nat} (h : i < T + 1 - W) : i + W ≤ T := by omega

theorem add_lt_of_add_le {i j W T : Nat} (hj : j < W) (h : i + W ≤ T) : i + j < T := by omega

theorem stack_getElem? {α} (d : List (List α)) (W i : Nat) (hi : i < d.length + 1 - W) :
    (stack d W)[i]? = some (stackRow d W i) := by
  simp [stack, List.getElem?_map, List.getElem?_range hi]

theorem stackMulti_cons {α} (d : List (List α)) (ds : List (List (List α))) (W : Nat) :
    stackMulti (d :: ds) W = stack d W ++ stackMulti ds W := by
  simp [stackMulti]

theorem stackRow_piece_length {α} (d : List (List α)) (N W i : Nat)
    (hN : ∀ row ∈ d, row.length = N) (hi : i + W ≤ d.length) (j : Nat) (hj : j < W) :
    (d.getD (i + j) []).length = N := by
  have hlt : i + j < d.length := add_lt_of_add_le hj hi
  rw [getD_eq_getElem _ _ hlt]
  exact hN _ (List.getElem_mem hlt)

theorem stackRow_length {α} (d : List (List α)) (N W i : Nat)
    (hN : ∀ row ∈ d, row.length = N) (hi : i + W ≤ d.length) :
    (stackRow d W i).length = W * N :=
  length_flatMap_range _ N W (stackRow_piece_length d N W i hN hi)

theorem stackRow_getElem? {α} (d : List (List α)) (N W i j k : Nat)
    (hN : ∀ row ∈ d, row.length = N) (hi : i + W ≤ d.length) (hj : j < W) (hk : k < N) :
    (stackRow d W i)[j * N + k]? = d[i + j]?.bind (·[k]?) := by
  have hlt : i + j < d.length := add_lt_of_add_le hj hi
  unfold stackRow
  rw [getElem?_flatMap_range_mul _ N W (stackRow_piece_length d N W i hN hi) j k hj hk,
    getD_eq_getElem _ _ hlt, List.getElem?_eq_getElem hlt]
  rfl

/-! ### prefix sums: `accumulate` and `splitJoint` by index -/

/-- `sum(lens[:i])`: where series `i` starts in the joint list, where series `i - 1` ends -/
def pref (l : List Nat) (i : Nat) : Nat := (l.take i).sum

theorem pref_cons (x : Nat) (t : List Nat) (i : Nat) : pref (x :: t) (i + 1) = x + pref t i := rfl

theorem pref_le_sum (l : List Nat) (i : Nat) : pref l i ≤ l.sum := by
  unfold pref
  conv => rhs; rw [← List.take_append_drop i l]
  rw [List.sum_append_nat]
  exact Nat.le_add_right _ _

theorem pref_succ (l : List Nat) (i : Nat) (h : i < l.length) : pref l (i + 1) = pref l i + l[i] := by
  unfold pref
  rw [List.take_succ_eq_append_getElem h, List.sum_append_nat]
  simp

theorem accumulate_eq_map (l : List Nat) :
    accumulate l = (List.range l.length).map (fun i => pref l (i + 1)) := by
  induction l with
  | nil => rfl
  | cons x t ih =>
    simp only [accumulate, List.length_cons, List.range_succ_eq_map, List.map_cons, List.map_map, ih]
    rfl

theorem splitJoint_eq_map {α} (l : List α) (lens : List Nat) :
    splitJoint l lens
      = (List.range lens.length).map (fun i => (l.drop (pref lens i)).take (lens.getD i 0)) := by
  induction lens generalizing l with
  | nil => rfl
  | cons n t ih =>
    rw [splitJoint, ih, List.length_cons, List.range_succ_eq_map, List.map_cons, List.map_map]
    refine congrArg _ (List.map_congr_left fun i _ => ?_)
    simp only [Function.comp, pref_cons, List.drop_drop, List.getD_cons_succ]

/-! ### splitJoint -/

theorem splitJoint_length {β} (l : List β) (lens : List Nat) :
    (splitJoint l lens).length = lens.length := by
  rw [splitJoint_eq_map, List.length_map, List.length_range]

theorem splitJoint_lengths {β} (l : List β) (lens : List Nat) (h : l.length = lens.sum) :
    (splitJoint l lens).map List.length = lens := by
  induction lens generalizing l with
  | nil => simp [splitJoint]
  | cons n ns ih =>
    simp only [List.sum_cons] at h
    simp only [splitJoint, List.map_cons, List.length_take]
    rw [ih (l.drop n) (by rw [List.length_drop, h, Nat.add_sub_cancel_left]),
      Nat.min_eq_left (h ▸ Nat.le_add_right n ns.sum)]

theorem splitJoint_flatten {β} (l : List β) (lens : List Nat) (h : l.length = lens.sum) :
    (splitJoint l lens).flatten = l := by
  induction lens generalizing l with
  | nil =>
    simp at h
    simp [splitJoint, h]
  | cons n ns ih =>
    simp only [List.sum_cons] at h
    simp only [splitJoint, List.flatten_cons]
    rw [ih (l.drop n) (by rw [List.length_drop, h, Nat.add_sub_cancel_left])]
    exact List.take_append_drop n l

/-! ### padMissing -/

theorem front_le (W : Nat) : frontLen W ≤ W - 1 :=
  Nat.div_le_self (W - 1) 2

theorem padMissing_length (l : List Int) (W : Nat) :
    (padMissing l W).length = l.length + (W - 1) := by
  rw [padMissing, List.length_append, List.length_append, List.length_replicate, List.length_replicate, backLen]
  -- `front + n + (W - 1 - front)` with `front ≤ W - 1`
  have := front_le W
  omega

theorem stackedLen_pos {T W : Nat} (hT : W ≤ T) : 0 < stackedLen T W :=
  Nat.sub_pos_of_lt (Nat.lt_succ_of_le hT)

theorem stackedLen_add_pad {T W : Nat} (hW : 1 ≤ W) (hT : W ≤ T) :
    stackedLen T W + (W - 1) = T := by
  unfold stackedLen
  omega

theorem splitAndPad_lengths (joint : List Int) (lens : List Nat) (W : Nat)
    (hlen : joint.length = lens.sum) :
    (splitAndPad joint lens W).map List.length = lens.map (· + (W - 1)) := by
  have h : (List.length ∘ fun l => padMissing l W) = (· + (W - 1)) ∘ List.length :=
    funext fun l => padMissing_length l W
  rw [splitAndPad, List.map_map, h, ← List.map_map, splitJoint_lengths joint lens hlen]

/-! ### seriesOf -/

theorem seriesOf_cons (x : Nat) (xs : List Nat) (i : Nat) :
    seriesOf (x :: xs) i = if i < x then 0 else seriesOf xs (i - x) + 1 := rfl

theorem seriesOf_lt {x i : Nat} (xs : List Nat) (h : i < x) : seriesOf (x :: xs) i = 0 :=
  if_pos h

theorem seriesOf_add (x : Nat) (xs : List Nat) (j : Nat) :
    seriesOf (x :: xs) (x + j) = seriesOf xs j + 1 := by
  rw [seriesOf, if_neg (Nat.not_lt.2 (Nat.le_add_right x j)), Nat.add_sub_cancel_left]

/-! ### accumulate / mask -/

theorem le_of_mem_accumulate (y : Nat) (ys : List Nat) (e : Nat)
    (he : e ∈ accumulate (y :: ys)) : y ≤ e := by
  simp only [accumulate, List.mem_cons, List.mem_map] at he
  rcases he with rfl | ⟨a, _, rfl⟩
  · exact Nat.le_refl _
  · exact Nat.le_add_right y a

/-- the zero positions of `maskTemplate`: one before each cumulative length but the last. -/
def ends' (lens : List Nat) : List Nat := ((accumulate lens).dropLast).map (· - 1)

theorem maskTemplate_eq (lens : List Nat) :
    maskTemplate lens =
      (List.range lens.sum).map (fun i => if i ∈ ends' lens then 0 else 1) := by
  simp [maskTemplate, ends']

theorem maskTemplate_length' (lens : List Nat) : (maskTemplate lens).length = lens.sum := by
  simp [maskTemplate]

theorem ends'_cons_cons (x y : Nat) (ys : List Nat) (hy : 0 < y) :
    ends' (x :: y :: ys) = (x - 1) :: (ends' (y :: ys)).map (x + ·) := by
  have hd : (accumulate (x :: y :: ys)).dropLast
      = x :: ((accumulate (y :: ys)).dropLast).map (x + ·) := by
    rw [accumulate, List.dropLast_cons_of_ne_nil (by simp [accumulate]), List.map_dropLast]
  rw [ends', hd, ends', List.map_cons, List.map_map, List.map_map]
  congr 1
  apply List.map_congr_left
  intro e he
  have := le_of_mem_accumulate y ys e (List.dropLast_subset _ he)
  show x + e - 1 = x + (e - 1)
  exact Nat.add_sub_assoc (Nat.le_trans hy this) x

theorem mem_ends'_lt {x y i : Nat} (ys : List Nat) (hy : 0 < y) (h : i < x) :
    i ∈ ends' (x :: y :: ys) ↔ i + 1 = x := by
  rw [ends'_cons_cons x y ys hy, List.mem_cons, List.mem_map]
  constructor
  · rintro (rfl | ⟨e, _, rfl⟩)
    · exact Nat.sub_add_cancel (Nat.zero_lt_of_lt h)
    · exact absurd h (Nat.not_lt.2 (Nat.le_add_right x e))
  · intro h'
    exact Or.inl (Nat.eq_sub_of_add_eq h')

theorem mem_ends'_add {x y : Nat} (ys : List Nat) (hx : 0 < x) (hy : 0 < y) (j : Nat) :
    x + j ∈ ends' (x :: y :: ys) ↔ j ∈ ends' (y :: ys) := by
  rw [ends'_cons_cons x y ys hy, List.mem_cons, List.mem_map]
  constructor
  · rintro (h' | ⟨e, he, h'⟩)
    · -- `x - 1 < x ≤ x + j`
      exact absurd h' (Nat.ne_of_gt (Nat.lt_of_lt_of_le (Nat.sub_lt hx Nat.one_pos) (Nat.le_add_right x j)))
    · rwa [← Nat.add_left_cancel h']
  · intro h'
    exact Or.inr ⟨j, h', rfl⟩

theorem mem_ends'_iff (lens : List Nat) (hpos : ∀ n ∈ lens, 0 < n) (i : Nat) (hi : i < lens.sum) :
    i ∈ ends' lens ↔ seriesOf lens i ≠ seriesOf lens (i + 1) ∧ i + 1 < lens.sum := by
  induction lens generalizing i with
  | nil => simp at hi
  | cons x xs ih =>
    cases xs with
    | nil =>
      have hx : i < x := by simpa using hi
      rw [seriesOf_lt _ hx]
      refine ⟨fun h => by simp [ends', accumulate] at h, fun ⟨h1, h2⟩ => ?_⟩
      exact absurd (seriesOf_lt _ (by simpa using h2)).symm h1
    | cons y ys =>
      have hx := hpos x (by simp)
      have hy := hpos y (by simp)
      have ih := ih (fun n hn => hpos n (List.mem_cons_of_mem _ hn))
      rw [List.sum_cons] at hi ⊢
      by_cases h : i < x
      · rw [mem_ends'_lt ys hy h, seriesOf_lt _ h]
        constructor
        · rintro rfl
          have hs : 0 < (y :: ys).sum := by rw [List.sum_cons]; exact Nat.add_pos_left hy _
          rw [seriesOf_add (i + 1) _ 0]
          exact ⟨(Nat.succ_ne_zero _).symm, Nat.lt_add_of_pos_right hs⟩
        · rintro ⟨h1, _⟩
          rcases Nat.lt_or_ge (i + 1) x with h' | h'
          · exact absurd (seriesOf_lt _ h').symm h1
          · exact Nat.le_antisymm h h'
      · obtain ⟨j, rfl⟩ := Nat.exists_eq_add_of_le (Nat.le_of_not_lt h)
        rw [mem_ends'_add ys hx hy, seriesOf_add, Nat.add_assoc x j 1, seriesOf_add,
          ih j (Nat.lt_of_add_lt_add_left hi)]
        simp only [ne_eq, Nat.add_right_cancel_iff, Nat.add_lt_add_iff_left]

theorem mask_getElem? (lens : List Nat) (hpos : ∀ n ∈ lens, 0 < n) (i : Nat) (hi : i < lens.sum) :
    (maskTemplate lens)[i]? =
      some (if seriesOf lens i ≠ seriesOf lens (i + 1) ∧ i + 1 < lens.sum then 0 else 1) := by
  rw [maskTemplate_eq, List.getElem?_map, List.getElem?_range hi, Option.map_some]
  simp only [mem_ends'_iff lens hpos i hi]

theorem mask_getD_eq_one (lens : List Nat) (hpos : ∀ n ∈ lens, 0 < n) (i : Nat)
    (hi : i + 1 < lens.sum) :
    ((maskTemplate lens).getD i 0 == 1) = (seriesOf lens i == seriesOf lens (i + 1)) := by
  rw [List.getD_eq_getElem?_getD, mask_getElem? lens hpos i (Nat.lt_of_succ_lt hi), Option.getD_some]
  by_cases h : seriesOf lens i = seriesOf lens (i + 1) <;> simp [h, hi]

theorem maskTemplate_cons_cons (m y : Nat) (ys : List Nat) (hy : 0 < y) :
    maskTemplate ((m + 1) :: y :: ys) = List.replicate m 1 ++ 0 :: maskTemplate (y :: ys) := by
  have hm : m ∈ ends' ((m + 1) :: y :: ys) := (mem_ends'_lt ys hy (Nat.lt_succ_self m)).2 rfl
  -- the positions `range (m + 1 + s)` are `range m`, then `m` (a zero), then `m + 1 + j` for `j` in `range s`
  rw [maskTemplate_eq, maskTemplate_eq, List.sum_cons, List.range_add, List.map_append,
    List.map_map, List.range_succ, List.map_append, List.append_assoc, List.map_singleton,
    if_pos hm, List.singleton_append]
  have hfront : ∀ i ∈ List.range m, (if i ∈ ends' ((m + 1) :: y :: ys) then 0 else 1) = 1 := by
    intro i hi
    have hi' := List.mem_range.1 hi
    rw [if_neg]
    rw [mem_ends'_lt ys hy (Nat.lt_succ_of_lt hi')]
    exact Nat.ne_of_lt (Nat.succ_lt_succ hi')
  rw [List.map_congr_left hfront, List.map_const', List.length_range]
  refine congrArg (fun t => List.replicate m 1 ++ 0 :: t) (List.map_congr_left fun j _ => ?_)
  simp only [Function.comp, mem_ends'_add ys (Nat.succ_pos m) hy]

end FastTicc.Stack
