/- Helper lemmas for the cost half of property C06: what `assignCost` and `switchCost` read of a cost
table, whatever the table's shape. -/
import FastTicc.Model.Viterbi
import FastTicc.Proofs.Result
import FastTicc.Proofs.ListLemmas
import Mathlib.Algebra.Order.Field.Basic
import Mathlib.Tactic.Ring

namespace FastTicc.Final

variable {α : Type} [Field α] [LinearOrder α] [IsStrictOrderedRing α]

/-- the switching cost of a labelling, written as an explicit sum over consecutive pairs:
pair `(i, i+1)` costs `betas[i]` when its labels differ. -/
def switchSum (betas : Nat → α) (ls : List Nat) : α :=
  ((List.range (ls.length - 1)).map
    (fun i => if ls.getD i 0 = ls.getD (i + 1) 0 then 0 else betas i)).sum

end FastTicc.Final

namespace FastTicc.Result
open FastTicc.Viterbi FastTicc.Final

variable {α : Type} [Field α] [LinearOrder α] [IsStrictOrderedRing α]

-- the statements keep the section's algebraic context even where a proof needs less of it
set_option linter.unusedSectionVars false

theorem assignCost_eq_sum : ∀ (pts : List ((Nat → α) × α)) (ls : List Nat),
    assignCost pts ls = (List.zipWith (fun r l => r l) (pts.map Prod.fst) ls).sum
  | [], _ => by simp [assignCost]
  | _ :: _, [] => by simp [assignCost]
  | p :: ps, l :: ls => by simp [assignCost, assignCost_eq_sum ps ls]

theorem assignCost_eq_sum_range (pts : List ((Nat → α) × α)) (ls : List Nat) (d : (Nat → α) × α)
    (h : ls.length = pts.length) :
    assignCost pts ls = ((List.range pts.length).map fun p => (pts.getD p d).1 (ls.getD p 0)).sum := by
  rw [assignCost_eq_sum]
  conv_lhs => rw [← map_getD_range pts d, ← map_getD_range ls 0, h]
  rw [List.map_map, List.zipWith_map, List.zipWith_self]
  rfl

theorem withVectorBeta_nonneg (rows : List (Nat → α)) (betas : List α) (hb : ∀ b ∈ betas, 0 ≤ b) :
    ∀ p ∈ withVectorBeta rows betas, 0 ≤ p.2 := by
  intro p hp
  obtain ⟨r, b⟩ := p
  exact hb b (List.of_mem_zip hp).2

theorem switchSum_cons_cons (b : Nat → α) (l l' : Nat) (ls : List Nat) :
    switchSum b (l :: l' :: ls) =
      (if l = l' then 0 else b 0) + switchSum (fun i => b (i + 1)) (l' :: ls) := by
  unfold switchSum
  simp only [List.length_cons, Nat.add_sub_cancel]
  rw [List.range_succ_eq_map, List.map_cons, List.sum_cons, List.map_map]
  rfl

theorem switchCost_eq_switchSum (b : Nat → α) : ∀ (pts : List ((Nat → α) × α)) (ls : List Nat),
    (∀ i, i + 1 < ls.length → pts[i]?.map Prod.snd = some (b i)) →
    switchCost pts ls = switchSum b ls := by
  intro pts
  induction pts generalizing b with
  | nil =>
    intro ls h
    -- no label, one label (no pair in either case), or at least two
    rcases ls with _ | ⟨_, _ | ⟨_, _⟩⟩
    · rfl
    · rfl
    · exact absurd (h 0 (Nat.succ_lt_succ (Nat.succ_pos _))) nofun
  | cons p ps ih =>
    intro ls h
    rcases ls with _ | ⟨l, _ | ⟨l', lt⟩⟩
    · rfl
    · rfl
    · have h0 : p.2 = b 0 := Option.some.inj (h 0 (Nat.succ_lt_succ (Nat.succ_pos _)))
      rw [switchCost, switchSum_cons_cons, h0,
        ih (fun i => b (i + 1)) (l' :: lt) (fun i hi => h (i + 1) (Nat.succ_lt_succ hi))]

theorem sum_map_ite_const {ι : Type} (p : ι → Bool) (c : α) (l : List ι) :
    (l.map fun i => if p i = true then c else 0).sum = c * ((l.filter p).length : α) := by
  induction l with
  | nil => simp
  | cons x xs ih =>
    rw [List.map_cons, List.sum_cons, ih, List.filter_cons]
    cases p x
    · simp
    · simp only [if_true, List.length_cons, Nat.cast_succ]
      ring

theorem masked_pair (beta : α) (m a b : Nat) (hm : m = 0 ∨ m = 1) :
    (if a = b then 0 else beta * (m : α)) = if (m == 1 && a != b) = true then beta else 0 := by
  rcases hm with rfl | rfl <;> by_cases h : a = b <;> simp [h]

end FastTicc.Result
