/- Helper lemmas for properties C02 and C03. -/
import FastTicc.Model.Numeric
import FastTicc.Proofs.ListLemmas
import Mathlib.Algebra.Order.Field.Basic
import Mathlib.Algebra.Order.Ring.Abs
import Mathlib.Algebra.BigOperators.Group.List.Basic
import Mathlib.Analysis.Real.Sqrt
import Mathlib.Tactic.Ring
import Mathlib.Tactic.Linarith
import Mathlib.Tactic.LinearCombination

namespace FastTicc.Numeric

namespace Aux

/-! ### a sum of squares, expanded; the dual update entry by entry -/

section sums
variable {α : Type} [Field α]

theorem sum_sq_expand (ss : List α) (z : α) :
    (ss.map (fun s => (z - s) * (z - s))).sum
      = (ss.length : α) * z * z - 2 * z * ss.sum + (ss.map (fun s => s * s)).sum := by
  induction ss with
  | nil => simp
  | cons x xs ih =>
    simp only [List.map_cons, List.sum_cons, List.length_cons, ih]
    push_cast
    ring

theorem uUpdate_length (u x z : List α) : (uUpdate u x z).length = u.length := by
  rw [uUpdate, List.length_map, List.length_range]

theorem uUpdate_getElem (u x z : List α) (i : Nat) (hu : i < u.length) (hx : i < x.length)
    (hz : i < z.length) (h : i < (uUpdate u x z).length) :
    (uUpdate u x z)[i] = (u[i] + x[i]) - z[i] := by
  simp only [uUpdate, List.getElem_map, List.getElem_range, List.getD_eq_getElem?_getD,
    List.getElem?_eq_getElem hu, List.getElem?_eq_getElem hx, List.getElem?_eq_getElem hz,
    Option.getD_some]

end sums

/-! ### soft threshold -/

section soft
variable {α : Type} [Field α] [LinearOrder α] [IsStrictOrderedRing α]

theorem softThreshold_closed_form (s lam rr : α) (_hl : 0 ≤ lam) (hr : 0 < rr) :
    softThreshold s lam rr =
      if lam < s then (s - lam) / rr else if s < -lam then (s + lam) / rr else 0 := by
  -- the same tests; in either outer branch the clamp against `0` is idle
  refine if_ctx_congr Iff.rfl (fun h1 => ?_) fun _ => if_ctx_congr Iff.rfl (fun h2 => ?_) fun _ => rfl
  · exact if_neg (not_lt.2 (div_pos (sub_pos.2 h1) hr).le)
  · exact if_neg (not_lt.2 (div_neg_of_neg_of_pos (lt_neg_iff_add_neg.1 h2) hr).le)

theorem mul_le_mul_abs {a c : α} (h : |a| ≤ c) (b : α) : a * b ≤ c * |b| :=
  (le_abs_self _).trans ((abs_mul a b).le.trans (mul_le_mul_of_nonneg_right h (abs_nonneg b)))

/-- `g` is a subgradient of `L|·|` at `x`, written `|g| ≤ L ∧ g x = L|x|`: the subgradient inequality. -/
theorem abs_subgradient {L g x : α} (hg : |g| ≤ L) (hx : g * x = L * |x|) (y : α) :
    g * (y - x) ≤ L * (|y| - |x|) := by
  rw [mul_sub, mul_sub, hx]
  exact sub_le_sub_right (mul_le_mul_abs hg y) _

theorem abs_subgradient_near {L g₀ g x r : α} (h₀ : |g₀| ≤ L) (hx : g₀ * x = L * |x|)
    (hg : |g - g₀| ≤ r) (y : α) : g * (y - x) ≤ L * (|y| - |x|) + r * |y - x| := by
  linear_combination abs_subgradient h₀ hx y + mul_le_mul_abs hg (y - x)

theorem abs_subgradient_sign {L g x : α} (hg : |g| ≤ L) (hx : g * x = L * |x|) :
    (0 < x → g = L) ∧ (x < 0 → g = -L) ∧ (x = 0 → |g| ≤ L) := by
  refine ⟨fun h => ?_, fun h => ?_, fun _ => hg⟩
  · rw [abs_of_pos h] at hx
    exact mul_right_cancel₀ h.ne' hx
  · rw [abs_of_neg h, mul_neg, ← neg_mul] at hx
    exact mul_right_cancel₀ h.ne hx

/-- optimality of `z = softThreshold T Λ a`: `T - a z` is a subgradient of `Λ|·|` at `z`
(`Λ` above the dead zone, `-Λ` below it, `T` itself with `|T| ≤ Λ` inside). -/
theorem softThreshold_subgradient (T lam a : α) (hl : 0 ≤ lam) (ha : 0 < a) :
    |T - a * softThreshold T lam a| ≤ lam ∧
      (T - a * softThreshold T lam a) * softThreshold T lam a = lam * |softThreshold T lam a| := by
  rw [softThreshold_closed_form T lam a hl ha]
  split_ifs with h1 h2
  · rw [mul_div_cancel₀ _ ha.ne', sub_sub_cancel, abs_of_nonneg hl,
      abs_of_pos (div_pos (sub_pos.2 h1) ha)]
    exact ⟨le_rfl, rfl⟩
  · rw [mul_div_cancel₀ _ ha.ne', sub_add_cancel_left, abs_neg, abs_of_nonneg hl,
      abs_of_neg (div_neg_of_neg_of_pos (lt_neg_iff_add_neg.1 h2) ha), neg_mul, mul_neg]
    exact ⟨le_rfl, rfl⟩
  · rw [mul_zero, sub_zero, mul_zero, abs_zero, mul_zero]
    exact ⟨abs_le.2 ⟨not_lt.1 h2, not_lt.1 h1⟩, rfl⟩

/-- the soft threshold is the prox of `Λ|·|`: it minimises `Λ|z| + (a/2) z² − T z`.  With `s` the threshold
value and `g = T − a s`, the gap is `Λ(|z| − |s|) − g (z − s) + (a/2)(z − s)²`. -/
theorem softThreshold_prox (T lam a : α) (hl : 0 ≤ lam) (ha : 0 < a) (z : α) :
    lam * |softThreshold T lam a|
        + (a / 2 * softThreshold T lam a * softThreshold T lam a - softThreshold T lam a * T)
      ≤ lam * |z| + (a / 2 * z * z - z * T) := by
  obtain ⟨hg, hx⟩ := softThreshold_subgradient T lam a hl ha
  linear_combination abs_subgradient hg hx z
    + mul_nonneg (half_pos ha).le (mul_self_nonneg (z - softThreshold T lam a))

theorem uUpdate_fixed_iff (u x z : List α) (hx : x.length = u.length) (hz : z.length = u.length) :
    uUpdate u x z = u ↔ x = z := by
  have hi : ∀ i (h : i < u.length),
      (uUpdate u x z)[i]'(by rwa [uUpdate_length]) = u[i] ↔ x[i]'(hx ▸ h) = z[i]'(hz ▸ h) := by
    intro i h
    rw [uUpdate_getElem u x z i h (hx ▸ h) (hz ▸ h), add_sub_assoc, add_eq_left, sub_eq_zero]
  constructor
  · intro h
    exact List.ext_getElem (hx.trans hz.symm) fun i h1 _ => (hi i (hx ▸ h1)).1 (by simp only [h])
  · intro h
    exact List.ext_getElem (uUpdate_length u x z) fun i _ h2 => (hi i h2).2 (by simp only [h])

end soft

/-! ### writes into a list, block by block: block `k` puts the value `val k` at the indices `idx k` -/

section writes
variable {β κ : Type}

theorem foldl_blocks_length (ks : List κ) (idx : κ → List Nat) (val : κ → β) (z : List β) :
    (ks.foldl (fun z k => (idx k).foldl (fun z i => z.set i (val k)) z) z).length = z.length := by
  induction ks generalizing z with
  | nil => rfl
  | cons k ks ih => rw [List.foldl_cons, ih, length_foldl_set (fun _ => val k)]

theorem foldl_blocks_mem (ks : List κ) (idx : κ → List Nat) (val : κ → β) (z : List β)
    (k : κ) (hk : k ∈ ks) (i : Nat) (hi : i ∈ idx k) (hlt : i < z.length)
    (huniq : ∀ k' ∈ ks, i ∈ idx k' → k' = k) :
    (ks.foldl (fun z k => (idx k).foldl (fun z i => z.set i (val k)) z) z)[i]? = some (val k) := by
  induction ks using List.reverseRecOn with
  | nil => cases hk
  | append_singleton ks k' ih =>
    -- the last block decides, if it writes to cell `i` at all; then it is block `k`
    rw [List.foldl_append, List.foldl_cons, List.foldl_nil, getElem?_foldl_set (fun _ => val k'),
      foldl_blocks_length]
    by_cases hi' : i ∈ idx k'
    · rw [if_pos ⟨hi', hlt⟩, huniq k' (List.mem_append_right _ (List.mem_singleton_self k')) hi']
    · rw [if_neg fun h => hi' h.1]
      refine ih ?_ fun k'' h => huniq k'' (List.mem_append_left _ h)
      rcases List.mem_append.1 hk with h | h
      · exact h
      · exact absurd (List.mem_singleton.1 h ▸ hi) hi'

end writes

/-! ### the X-update eigenvalue map over ℝ -/

section eig

theorem sqrt_sq_eq (rho d : ℝ) (hrho : 0 < rho) :
    Real.sqrt (d * d + 4 * rho) * Real.sqrt (d * d + 4 * rho) = d * d + 4 * rho :=
  Real.mul_self_sqrt (add_nonneg (mul_self_nonneg d) (by linarith))

theorem abs_lt_sqrt (rho d : ℝ) (hrho : 0 < rho) : |d| < Real.sqrt (d * d + 4 * rho) := by
  rw [Real.lt_sqrt (abs_nonneg d), sq_abs]
  linarith

theorem sqrt_add_pos (rho d : ℝ) (hrho : 0 < rho) : 0 < d + Real.sqrt (d * d + 4 * rho) := by
  have := abs_lt_sqrt rho d hrho
  linarith [neg_abs_le d]

theorem sqrt_sub_pos (rho d : ℝ) (hrho : 0 < rho) : 0 < Real.sqrt (d * d + 4 * rho) - d := by
  have := abs_lt_sqrt rho d hrho
  linarith [le_abs_self d]

theorem eigPinned_eq (rho d : ℝ) :
    eigPinned Real.sqrt rho d = (d + Real.sqrt (d * d + 4 * rho)) / (2 * rho) := by
  unfold eigPinned
  push_cast
  rw [one_div, inv_mul_eq_div]

theorem eig_pos (rho d : ℝ) (hrho : 0 < rho) : 0 < eigPinned Real.sqrt rho d := by
  rw [eigPinned_eq]
  exact div_pos (sqrt_add_pos rho d hrho) (by linarith)

theorem eig_stationary (rho d : ℝ) (hrho : 0 < rho) :
    rho * eigPinned Real.sqrt rho d - (eigPinned Real.sqrt rho d)⁻¹ = d := by
  rw [eigPinned_eq]
  have hp := sqrt_add_pos rho d hrho
  have hsq := sqrt_sq_eq rho d hrho
  have hr : rho ≠ 0 := ne_of_gt hrho
  generalize Real.sqrt (d * d + 4 * rho) = R at hp hsq ⊢
  have hne : d + R ≠ 0 := ne_of_gt hp
  rw [inv_div, mul_div_assoc', mul_comm rho (d + R), mul_div_mul_right _ _ hr,
    div_sub_div _ _ two_ne_zero hne, div_eq_iff (mul_ne_zero two_ne_zero hne)]
  linear_combination hsq

theorem eig_forms_equal (rho d : ℝ) (hrho : 0 < rho) :
    eigRepaired Real.sqrt rho d = eigPinned Real.sqrt rho d := by
  unfold eigRepaired eigPinned
  push_cast
  by_cases hd : d < 0
  · simp only [hd, if_true]
    congr 1
    rw [div_eq_iff (sqrt_sub_pos rho d hrho).ne']
    linear_combination -sqrt_sq_eq rho d hrho
  · simp only [hd, if_false]

end eig

end Aux

end FastTicc.Numeric
