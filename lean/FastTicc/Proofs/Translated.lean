/-
Lemmas about the Python primitives of `Model/Py.lean`, used by the equivalence theorems `Props/Tr*.lean`.
A `for i in range(..)` is a fold over `List.range`; a fold whose state has a closed form `g k` before round `k` is
rewritten to `g n` in place (`foldl_range_eq`), so a proof that uses it does not restate the generated loop body.  An `Int` index that is the
cast of a natural number reads and writes where one expects, whatever the length (`idx_nat` has no bound), so a loop of
writes into a table leaves a closed record `⟨rows, cols, fun r c => if … then … else …⟩` and needs no hypothesis on
the shape (`fill_row`, `fill_rows`).  Then true division and `int()`, `sum`, and `itertools.accumulate` on lengths (read
against `Stack.accumulate`, the one model definition this file mentions).
-/
import FastTicc.Model.Py
import FastTicc.Model.Stack
import Mathlib.Data.Rat.Floor
open FastTicc

namespace FastTicc.PyLemmas

/-! ### loops and ranges -/

/-- Shaped for `rw [foldl_range_eq (g := ..)]`: the loop body, the start and the bound are found in the goal, the two
side goals remain. -/
theorem foldl_range_eq {σ : Type} (f : σ → Nat → σ) (g : Nat → σ) (s : σ) (n : Nat) (h0 : s = g 0)
    (h : ∀ k < n, f (g k) k = g (k + 1)) : (List.range n).foldl f s = g n := by
  induction n with
  | zero => exact h0
  | succ n ih =>
    rw [List.range_succ, List.foldl_append, ih fun k hk => h k (Nat.lt_succ_of_lt hk)]
    exact h n (Nat.lt_succ_self n)

theorem range_nat_one (a n : Nat) :
    Py.range (a : Int) (n : Int) 1 = (List.range' a (n - a)).map (fun (k : Nat) => (k : Int)) := by
  unfold Py.range
  have hl : Py.rangeLen (a : Int) (n : Int) 1 = n - a := by
    unfold Py.rangeLen
    simp
  rw [hl, List.range'_eq_map_range, List.map_map]
  apply List.map_congr_left
  intro k _
  simp

theorem range_zero_one (n : Nat) : Py.range 0 n 1 = (List.range n).map (fun (k : Nat) => (k : Int)) := by
  rw [List.range_eq_range']
  exact range_nat_one 0 n

theorem filter_le_range (a : Nat) : ∀ n, (List.range n).filter (fun c => decide (a ≤ c)) = List.range' a (n - a)
  | 0 => by simp
  | n + 1 => by
    rw [List.range_succ, List.filter_append, filter_le_range a n, List.filter_singleton]
    by_cases h : a ≤ n
    · -- `n` is kept, and `n + 1 - a = (n - a) + 1`
      rw [decide_eq_true h, cond_true, Nat.sub_add_comm h, List.range'_concat, Nat.one_mul, Nat.add_sub_cancel' h]
    · -- `n < a`: `n` is dropped and both ranges are empty
      have h' : n < a := Nat.lt_of_not_le h
      rw [decide_eq_false h, cond_false, List.append_nil, Nat.sub_eq_zero_of_le h', Nat.sub_eq_zero_of_le h'.le]

theorem forEach_range {σ} (n : Nat) (init : σ) (body : Int → σ → σ) :
    Py.forEach (Py.range 0 n 1) init body = (List.range n).foldl (fun s (k : Nat) => body (k : Int) s) init := by
  rw [Py.forEach, range_zero_one, List.foldl_map]

theorem forEach_range_down {σ} (n : Nat) (init : σ) (body : Int → σ → σ) :
    Py.forEach (Py.range ((n : Int) - 1) (-1) (-1)) init body
      = (List.range n).foldl (fun s (k : Nat) => body (((n - 1 - k : Nat) : Nat) : Int) s) init := by
  -- the branch of a negative step: `(n - 1 - (-1) + 1 - 1) / 1 = n`
  have hl : Py.rangeLen ((n : Int) - 1) (-1) (-1) = n := by
    rw [Py.rangeLen, if_neg (by decide), if_pos (by decide), Int.neg_neg, Int.ediv_one, Int.sub_neg,
      Int.sub_add_cancel, Int.add_sub_cancel, Int.toNat_natCast]
  rw [Py.forEach, Py.range, hl, List.foldl_map]
  refine List.foldl_ext _ _ _ fun s k hk => ?_
  have hk' : k < n := List.mem_range.mp hk
  congr 1
  omega

/-! ### indices: an `Int` index that is the cast of a natural number -/

theorem idx_nat (n i : Nat) : Py.idx n (i : Int) = i := by
  unfold Py.idx
  have : ¬ ((i : Int) < 0) := Int.not_lt.2 (Int.natCast_nonneg i)
  simp [this]

theorem idx_zero (n : Nat) : Py.idx n 0 = 0 := idx_nat n 0

theorem sliceBound_nat (n a : Nat) (h : a ≤ n) : Py.sliceBound n (a : Int) = a := by
  unfold Py.sliceBound
  rw [if_neg (Int.not_lt.2 (Int.natCast_nonneg a)), Int.toNat_natCast, Nat.min_eq_left h]

/-! ### reading and writing a list given by its entries, slices -/

theorem getItem_map_range {β : Type} [Inhabited β] (g : Nat → β) (n k : Nat) (h : k < n) :
    Py.getItem ((List.range n).map g) (k : Int) = g k := by
  simp [Py.getItem, idx_nat, h]

theorem getItemZ_map_range {β : Type} [Zero β] (g : Nat → β) (n k : Nat) (h : k < n) :
    Py.getItemZ ((List.range n).map g) (k : Int) = g k := by
  simp [Py.getItemZ, idx_nat, h]

theorem setItem_map_range {β : Type} (g : Nat → β) (n k : Nat) (x : β) :
    Py.setItem ((List.range n).map g) (k : Int) x = (List.range n).map (fun i => if i = k then x else g i) := by
  unfold Py.setItem
  rw [idx_nat]
  apply List.ext_getElem
  · simp
  · intro i _ _
    simp only [List.getElem_set, List.getElem_map, List.getElem_range, eq_comm]

theorem getItem_concat_last {α} [Inhabited α] (l : List α) (x : α) : Py.getItem (l ++ [x]) (-1) = x := by
  -- index `-1` of a list of length `|l| + 1` is `|l|`
  have hidx : Py.idx (l ++ [x]).length (-1) = l.length := by
    rw [Py.idx, if_pos (by decide), List.length_append, List.length_singleton, Int.natCast_succ,
      Int.add_neg_cancel_right, Int.toNat_natCast]
  rw [Py.getItem, hidx, List.getD_eq_getElem?_getD, List.getElem?_concat_length, Option.getD_some]

theorem slice_natCast {α} (l : List α) (a b : Nat) (ha : a ≤ b) (hb : b ≤ l.length) :
    Py.slice l (a : Int) (b : Int) = (l.drop a).take (b - a) := by
  unfold Py.slice
  rw [sliceBound_nat _ _ (Nat.le_trans ha hb), sliceBound_nat _ _ hb]

theorem repeatList_single {α} (x : α) (n : Nat) : Py.repeatList [x] (n : Int) = List.replicate n x := by
  unfold Py.repeatList
  simp

/-! ### tables filled in index order -/

/-- One round of a loop that fills a table: it writes `a` on the cells with `P` into a table that holds `b` on the cells
with `Q` (the rounds before) and `y` elsewhere, and where it writes, `a` is `b`; so afterwards `b` stands on `R = P ∨ Q`. -/
theorem ite_merge {β : Type} {P Q R : Prop} [Decidable P] [Decidable Q] [Decidable R] {a b y : β}
    (h : R ↔ P ∨ Q) (hab : P → a = b) : (if P then a else if Q then b else y) = if R then b else y := by
  by_cases hP : P
  · rw [if_pos hP, if_pos (h.mpr (Or.inl hP)), hab hP]
  · rw [if_neg hP]
    exact if_congr (by rw [h, or_iff_right hP]) rfl rfl

theorem fill_row {β : Type} (F : Nat → β) (init : Py.Arr2 β) (p m : Nat) :
    (List.range m).foldl (fun s (k : Nat) => Py.Arr2.set s (p : Int) (k : Int) (F k)) init
      = ⟨init.rows, init.cols, fun r c => if r = p ∧ c < m then F c else init.get r c⟩ := by
  induction m with
  | zero => simp only [List.range_zero, List.foldl_nil, Nat.not_lt_zero, and_false, if_false]
  | succ k ih =>
    rw [List.range_succ, List.foldl_append, ih]
    simp only [List.foldl_cons, List.foldl_nil, Py.Arr2.set, idx_nat]
    congr
    funext r c
    exact ite_merge (by rw [← and_or_left, Nat.lt_succ_iff_lt_or_eq, or_comm]) (fun h => by rw [h.2])

theorem fill_rows {β : Type} (C : Nat) (F : Nat → Nat → β) (step : Py.Arr2 β → Nat → Py.Arr2 β) (init : Py.Arr2 β)
    (n : Nat)
    (hstep : ∀ p < n, ∀ g, step ⟨init.rows, init.cols, g⟩ p
      = ⟨init.rows, init.cols, fun r c => if r = p ∧ c < C then F p c else g r c⟩) :
    (List.range n).foldl step init
      = ⟨init.rows, init.cols, fun r c => if r < n ∧ c < C then F r c else init.get r c⟩ := by
  induction n with
  | zero => simp only [List.range_zero, List.foldl_nil, Nat.not_lt_zero, false_and, if_false]
  | succ p ih =>
    rw [List.range_succ, List.foldl_append, ih fun q hq => hstep q (Nat.lt_succ_of_lt hq)]
    simp only [List.foldl_cons, List.foldl_nil, hstep p (Nat.lt_succ_self p)]
    congr
    funext r c
    exact ite_merge (by rw [← or_and_right, Nat.lt_succ_iff_lt_or_eq, or_comm]) (fun h => by rw [h.1])

theorem fill_table_eq {β : Type} (K : Nat) (F : Nat → Nat → β) (init : Py.Arr2 β) (m : Nat) :
    (List.range m).foldl (fun s (p : Nat) =>
        (List.range K).foldl (fun s (k : Nat) => Py.Arr2.set s (p : Int) (k : Int) (F p k)) s) init
      = ⟨init.rows, init.cols, fun r c => if r < m ∧ c < K then F r c else init.get r c⟩ :=
  fill_rows K F _ init m (fun p _ g => fill_row (F p) ⟨_, _, g⟩ p K)

/-! ### true division, `int()` -/

theorem intOfRat_intCast (z : Int) : Py.intOfRat (z : Rat) = z := by
  rw [Py.intOfRat, Rat.floor_intCast, Rat.ceil_intCast, ite_self]

theorem intOfRat_trueDiv_two (a : Nat) : Py.intOfRat (Py.trueDiv (a : Int) 2) = ((a / 2 : Nat) : Int) := by
  unfold Py.intOfRat Py.trueDiv
  rw [if_pos (by positivity)]
  -- `Rat.floor` is the `⌊·⌋` of `ℚ`
  change ⌊(((a : Nat) : Int) : Rat) / ((2 : Int) : Rat)⌋ = _
  simpa using Rat.floor_intCast_div_natCast (a : Int) 2

theorem trueDiv_even (a : Int) (h : Even a) : Py.trueDiv a 2 = ((a / 2 : Int) : Rat) := by
  obtain ⟨k, rfl⟩ := h
  rw [Py.trueDiv, ← two_mul, Int.mul_ediv_cancel_left k two_ne_zero, Int.cast_mul, Int.cast_ofNat,
    mul_div_cancel_left₀ _ two_ne_zero]

theorem trueDiv_mul_cancel (N W : Nat) (hW : 0 < W) :
    Py.intOfRat (Py.trueDiv (((N * W : Nat) : Nat) : Int) (W : Int)) = (N : Int) := by
  have hW' : ((W : Int) : Rat) ≠ 0 := by exact_mod_cast hW.ne'
  rw [Py.trueDiv, Nat.cast_mul, Int.cast_mul, mul_div_assoc, div_self hW', mul_one, intOfRat_intCast]

theorem ratCast_trueDiv {α : Type} [Field α] [CharZero α] (a b : Int) :
    (Py.ratCast (Py.trueDiv a b) : α) = (a : α) / (b : α) := by
  unfold Py.ratCast Py.trueDiv
  have h := Rat.cast_def (K := α) ((a : Rat) / (b : Rat))
  simp only [Int.cast_natCast]
  rw [← h, Rat.cast_div, Rat.cast_intCast, Rat.cast_intCast]

/-! ### sums and running sums of lengths -/

theorem sum_natCast (l : List Nat) : Py.sum (l.map (fun (x : Nat) => (x : Int))) = ((l.sum : Nat) : Int) := by
  rw [Py.sum, ← List.sum_eq_foldl]
  induction l with
  | nil => rfl
  | cons a t ih => rw [List.map_cons, List.sum_cons, List.sum_cons, ih, Nat.cast_add]

theorem accumulateFrom_natCast (l : List Nat) (a : Nat) :
    Py.accumulateFrom (a : Int) (l.map (fun (x : Nat) => (x : Int)))
      = (Stack.accumulate l).map (fun e => ((a + e : Nat) : Int)) := by
  induction l generalizing a with
  | nil => rfl
  | cons x t ih =>
    rw [List.map_cons, Py.accumulateFrom, ← Nat.cast_add, ih, Stack.accumulate, List.map_cons, List.map_map]
    refine congrArg _ (List.map_congr_left fun e _ => ?_)
    simp only [Function.comp, Nat.add_assoc]

theorem accumulate_natCast (l : List Nat) :
    Py.accumulate (l.map (fun (x : Nat) => (x : Int))) = (Stack.accumulate l).map (fun (e : Nat) => (e : Int)) := by
  have := accumulateFrom_natCast l 0
  simpa [Py.accumulate] using this

end FastTicc.PyLemmas
