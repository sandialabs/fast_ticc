/- Helper lemmas for the matrix-level X-update theorems. -/
import Mathlib.LinearAlgebra.Matrix.NonsingularInverse
import Mathlib.Data.Matrix.Basic
import Mathlib.LinearAlgebra.Matrix.PosDef
import Mathlib.Algebra.Order.Star.Real

namespace FastTicc.Numeric

namespace Aux
open Matrix

variable {n : ℕ}

theorem conj_diag_symm (Q : Matrix (Fin n) (Fin n) ℝ) (e : Fin n → ℝ) :
    (Q * Matrix.diagonal e * Qᵀ).IsSymm := by
  unfold Matrix.IsSymm
  rw [Matrix.transpose_mul, Matrix.transpose_mul, Matrix.transpose_transpose,
    Matrix.diagonal_transpose, Matrix.mul_assoc]

theorem conj_diag_mul (Q : Matrix (Fin n) (Fin n) ℝ) (hQ : Qᵀ * Q = 1) (e f : Fin n → ℝ) :
    (Q * Matrix.diagonal e * Qᵀ) * (Q * Matrix.diagonal f * Qᵀ)
      = Q * Matrix.diagonal (fun i => e i * f i) * Qᵀ := by
  calc (Q * Matrix.diagonal e * Qᵀ) * (Q * Matrix.diagonal f * Qᵀ)
      = Q * (Matrix.diagonal e * ((Qᵀ * Q) * (Matrix.diagonal f * Qᵀ))) := by
        simp only [Matrix.mul_assoc]
    _ = Q * Matrix.diagonal (fun i => e i * f i) * Qᵀ := by
        rw [hQ, Matrix.one_mul, ← Matrix.mul_assoc (Matrix.diagonal e),
          Matrix.diagonal_mul_diagonal, ← Matrix.mul_assoc]

theorem conj_diag_inv (Q : Matrix (Fin n) (Fin n) ℝ) (hQ : Qᵀ * Q = 1) (e : Fin n → ℝ)
    (he : ∀ i, e i ≠ 0) :
    (Q * Matrix.diagonal e * Qᵀ)⁻¹ = Q * Matrix.diagonal (fun i => (e i)⁻¹) * Qᵀ := by
  apply Matrix.inv_eq_right_inv
  rw [conj_diag_mul Q hQ]
  have h1 : (fun i => e i * (e i)⁻¹) = fun _ => (1 : ℝ) :=
    funext fun i => mul_inv_cancel₀ (he i)
  rw [h1, Matrix.diagonal_one, Matrix.mul_one]
  exact mul_eq_one_comm.1 hQ

theorem conj_diag_smul_sub (Q : Matrix (Fin n) (Fin n) ℝ) (rho : ℝ) (e f : Fin n → ℝ) :
    rho • (Q * Matrix.diagonal e * Qᵀ) - Q * Matrix.diagonal f * Qᵀ
      = Q * Matrix.diagonal (fun i => rho * e i - f i) * Qᵀ := by
  have h1 : Matrix.diagonal (fun i => rho * e i - f i)
      = rho • Matrix.diagonal e - Matrix.diagonal f := by
    rw [← Matrix.diagonal_smul, ← Matrix.diagonal_sub]
    rfl
  rw [h1, Matrix.mul_sub, Matrix.sub_mul, Matrix.mul_smul, Matrix.smul_mul]

theorem conj_diag_posDef (Q : Matrix (Fin n) (Fin n) ℝ) (hQ : Qᵀ * Q = 1) (e : Fin n → ℝ)
    (he : ∀ i, 0 < e i) (x : Fin n → ℝ) (hx : x ≠ 0) :
    0 < x ⬝ᵥ (Q * Matrix.diagonal e * Qᵀ).mulVec x := by
  have hinj : Function.Injective Q.vecMul :=
    Matrix.vecMul_injective_iff_isUnit.2 (IsUnit.of_mul_eq_one _ (mul_eq_one_comm.1 hQ))
  have := ((Matrix.posDef_diagonal_iff.2 he).mul_mul_conjTranspose_same hinj).dotProduct_mulVec_pos hx
  rwa [star_trivial, conjTranspose_eq_transpose_of_trivial] at this

end Aux

end FastTicc.Numeric
