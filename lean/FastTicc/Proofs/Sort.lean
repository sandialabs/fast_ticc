/-
The sort primitive `Py.sortedDescBy` (insertion by decreasing key, `Model/Py.lean`): the result is a permutation of the input,
its keys never increase, and the elements that share a key keep the order they had in the input.  Both the ranking of the
hand-written model (`Repop.rankedDonors`, which is this sort on cluster ids: `Proofs/Repop.lean`) and the translated
`sorted(..., reverse=True)` (`Props/PySort.lean`, `Props/TrDonors.lean`) rest on these.
-/
import FastTicc.Model.Py
import Mathlib.Order.Defs.LinearOrder
open FastTicc

namespace FastTicc.PySort
section
variable {β γ : Type} [LT β] [DecidableLT β]

theorem insertDescBy_perm (key : γ → β) (x : γ) (l : List γ) : (Py.insertDescBy key x l).Perm (x :: l) := by
  induction l with
  | nil => simp [Py.insertDescBy]
  | cons y t ih =>
    unfold Py.insertDescBy
    split
    · exact (List.Perm.cons y ih).trans (List.Perm.swap x y t)
    · exact List.Perm.refl _

theorem sortedDescBy_perm (key : γ → β) (l : List γ) : (Py.sortedDescBy key l).Perm l := by
  induction l with
  | nil => exact List.Perm.refl _
  | cons x t ih => exact (insertDescBy_perm key x _).trans (List.Perm.cons x ih)

theorem insertDescBy_map {δ : Type} (f : δ → γ) (key : γ → β) (key' : δ → β) (x : δ) (l : List δ)
    (hx : key (f x) = key' x) (hl : ∀ y ∈ l, key (f y) = key' y) :
    Py.insertDescBy key (f x) (l.map f) = (Py.insertDescBy key' x l).map f := by
  induction l with
  | nil => rfl
  | cons y t ih =>
    simp only [List.map_cons, Py.insertDescBy, hx, hl y List.mem_cons_self]
    split
    · rw [ih (fun z hz => hl z (List.mem_cons_of_mem y hz)), List.map_cons]
    · rfl

/-- sorting renamed elements (ids as Python ints, say): the two keys only have to agree on the elements there are -/
theorem sortedDescBy_map {δ : Type} (f : δ → γ) (key : γ → β) (key' : δ → β) (l : List δ)
    (h : ∀ y ∈ l, key (f y) = key' y) : Py.sortedDescBy key (l.map f) = (Py.sortedDescBy key' l).map f := by
  induction l with
  | nil => rfl
  | cons x t ih =>
    have ht : ∀ y ∈ t, key (f y) = key' y := fun y hy => h y (List.mem_cons_of_mem x hy)
    rw [List.map_cons, Py.sortedDescBy, List.foldr_cons, ← Py.sortedDescBy, ih ht]
    exact insertDescBy_map f key key' x _ (h x List.mem_cons_self)
      (fun y hy => ht y ((sortedDescBy_perm key' t).mem_iff.mp hy))

end

section
variable {β γ : Type} [LinearOrder β]

theorem insertDescBy_sorted (key : γ → β) (x : γ) (l : List γ)
    (h : l.Pairwise (fun a b => key b ≤ key a)) : (Py.insertDescBy key x l).Pairwise (fun a b => key b ≤ key a) := by
  induction l with
  | nil => simp [Py.insertDescBy]
  | cons y t ih =>
    obtain ⟨hy, ht⟩ := List.pairwise_cons.mp h
    unfold Py.insertDescBy
    split
    · next hlt =>
      -- `y` stays in front: of `x`, whose key is smaller, and of `t` as before
      refine List.pairwise_cons.mpr ⟨fun b hb => ?_, ih ht⟩
      rcases List.mem_cons.mp ((insertDescBy_perm key x t).mem_iff.mp hb) with rfl | hbt
      · exact le_of_lt hlt
      · exact hy b hbt
    · next hnlt =>
      -- `x` goes in front: every key is `≤ key y ≤ key x`
      refine List.pairwise_cons.mpr ⟨fun b hb => ?_, h⟩
      rcases List.mem_cons.mp hb with rfl | hbt
      · exact not_lt.mp hnlt
      · exact le_trans (hy b hbt) (not_lt.mp hnlt)

theorem sortedDescBy_sorted (key : γ → β) (l : List γ) :
    (Py.sortedDescBy key l).Pairwise (fun a b => key b ≤ key a) := by
  induction l with
  | nil => exact List.Pairwise.nil
  | cons x t ih => exact insertDescBy_sorted key x _ ih

theorem insertDescBy_filter (key : γ → β) (k : β) (x : γ) (l : List γ) :
    (Py.insertDescBy key x l).filter (fun y => decide (key y = k)) = (x :: l).filter (fun y => decide (key y = k)) := by
  induction l with
  | nil => simp [Py.insertDescBy]
  | cons y t ih =>
    unfold Py.insertDescBy
    split
    · rename_i hlt
      by_cases hy : key y = k
      · have hx : ¬ key x = k := by intro hx; rw [hx, hy] at hlt; exact lt_irrefl _ hlt
        simp [hy, hx, ih]
      · by_cases hx : key x = k <;> simp [hy, hx, ih]
    · rfl

theorem sortedDescBy_stable (key : γ → β) (k : β) (l : List γ) :
    (Py.sortedDescBy key l).filter (fun y => decide (key y = k)) = l.filter (fun y => decide (key y = k)) := by
  induction l with
  | nil => rfl
  | cons x t ih =>
    show (Py.insertDescBy key x (Py.sortedDescBy key t)).filter _ = _
    rw [insertDescBy_filter, List.filter_cons, List.filter_cons, ih]

theorem sortedDescBy_lex (key : γ → β) (R : γ → γ → Prop) (l : List γ) (hl : l.Pairwise R) :
    (Py.sortedDescBy key l).Pairwise (fun a b => key b < key a ∨ (key a = key b ∧ R a b)) := by
  rw [List.pairwise_iff_forall_sublist] at hl ⊢
  intro a b hab
  rcases lt_or_eq_of_le (List.pairwise_iff_forall_sublist.mp (sortedDescBy_sorted key l) hab) with h | h
  · exact Or.inl h
  · -- `[a, b]` survives the filter by the key the two share, and what that filter keeps stands as it stood in `l`
    refine Or.inr ⟨h.symm, hl ?_⟩
    have hf := hab.filter (fun y => decide (key y = key a))
    rw [sortedDescBy_stable, List.filter_cons_of_pos (by exact decide_eq_true rfl),
      List.filter_cons_of_pos (by exact decide_eq_true h), List.filter_nil] at hf
    exact hf.trans List.filter_sublist

end
end FastTicc.PySort
