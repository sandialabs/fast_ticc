/-
Helper lemmas for properties C13, C19 (heap model).  Core Lean only.

Every phase allocates one new state over fresh copies of the clusters of the state it was given
(`Fresh`); whatever it writes afterwards is confined to that new state and its own cluster cells
(`Local`).  Both kinds of step keep the ownership discipline and the view of every state that
existed before (`Ext`), and `Inv` is a function of the view (`InvB_of_view`), so the invariant of
the earlier states needs no frame lemma of its own.
-/
import FastTicc.Model.Heap

namespace FastTicc.Heap

/-! ### cell access after the primitives -/

theorem cluster_congr {h h' : Heap} {r : Nat} (e : h'.clusters[r]? = h.clusters[r]?) :
    h'.cluster r = h.cluster r := by
  simp only [Heap.cluster, List.getD_eq_getElem?_getD, e]

theorem cluster_of_getElem? {h : Heap} {r : Nat} {c : Cluster} (e : h.clusters[r]? = some c) :
    h.cluster r = c := by
  simp only [Heap.cluster, List.getD_eq_getElem?_getD, e, Option.getD_some]

theorem cluster_of_le {h : Heap} {r : Nat} (e : h.clusters.length ≤ r) :
    h.cluster r = emptyCluster := by
  simp only [Heap.cluster, List.getD_eq_getElem?_getD, List.getElem?_eq_none e, Option.getD_none]

theorem cluster_setCluster (h : Heap) (r : Nat) (c : Cluster) (r' : Nat) :
    (h.setCluster r c).cluster r' =
      if r' = r ∧ r < h.clusters.length then c else h.cluster r' := by
  simp only [Heap.cluster, Heap.setCluster, List.getD_eq_getElem?_getD, List.getElem?_set]
  by_cases h1 : r = r'
  · subst h1
    by_cases h2 : r < h.clusters.length <;> simp [h2]
  · have : ¬ r' = r := fun e => h1 e.symm
    simp [h1, this]

theorem cluster_setCluster_ne {h : Heap} {r r' : Nat} (c : Cluster) (hne : r' ≠ r) :
    (h.setCluster r c).cluster r' = h.cluster r' := by
  rw [cluster_setCluster]; simp [hne]

theorem cluster_setCluster_self {h : Heap} {r : Nat} (c : Cluster) (hr : r < h.clusters.length) :
    (h.setCluster r c).cluster r = c := by
  rw [cluster_setCluster]; simp [hr]

theorem lt_length_append {α : Type} {l : List α} {r : Nat} (hr : r < l.length) (l' : List α) :
    r < (l ++ l').length :=
  List.length_append ▸ Nat.lt_add_right _ hr

theorem cluster_append_left {h h' : Heap} {cs : List Cluster} (e : h'.clusters = h.clusters ++ cs)
    {r : Nat} (hr : r < h.clusters.length) : h'.cluster r = h.cluster r :=
  cluster_congr (by rw [e, List.getElem?_append_left hr])

theorem cluster_append_right {h h' : Heap} {cs : List Cluster} (e : h'.clusters = h.clusters ++ cs)
    {j : Nat} {c : Cluster} (hj : cs[j]? = some c) : h'.cluster (h.clusters.length + j) = c :=
  cluster_of_getElem? (by
    rw [e, List.getElem?_append_right (Nat.le_add_right _ _), Nat.add_sub_cancel_left]; exact hj)

theorem argsOf_congr {h h' : Heap} (e : h'.args = h.args) (a : Nat) : h'.argsOf a = h.argsOf a := by
  rw [Heap.argsOf, e]; rfl

/-! ### observations as functions of (state cell, cluster cells, K) -/

def memberLists (h : Heap) (st : State) : List (List Nat) :=
  st.clusters.map (fun r => (h.cluster r).members)

def invCore (K : Nat) (labs : Option (List Nat)) (ms : List (List Nat)) : Bool :=
  decide (ms.length = K) &&
  (match labs with
   | none => ms.all (fun m => m == [])
   | some ls =>
     (List.range K).all (fun k =>
       match ms[k]? with
       | some m => m == Repop.members ls k
       | none => false))

theorem InvB_eq (h : Heap) (s : Nat) :
    InvB h s = match h.states[s]? with
      | none => false
      | some st => invCore (h.argsOf st.args).K (st.labels.map (·.2)) (memberLists h st) := by
  unfold InvB Heap.state?
  cases hst : h.states[s]? with
  | none => rfl
  | some st =>
    show (decide _ && _) = invCore _ _ _
    rcases hl : st.labels with _ | ⟨i, ls⟩
    · simp [invCore, memberLists, List.all_map, Function.comp_def]
    · simp only [invCore, memberLists, List.length_map, Option.map_some, List.getElem?_map]
      refine congrArg (_ && ·) (List.all_congr rfl fun k => ?_)
      cases st.clusters[k]? <;> rfl

theorem InvB_congr {h h' : Heap} {t t' : Nat} {st st' : State}
    (hst : h.states[t]? = some st) (hst' : h'.states[t']? = some st')
    (hl : st'.labels.map (·.2) = st.labels.map (·.2))
    (hK : (h'.argsOf st'.args).K = (h.argsOf st.args).K)
    (hm : memberLists h' st' = memberLists h st) : InvB h' t' = InvB h t := by
  rw [InvB_eq, InvB_eq, hst, hst']
  simp only [hl, hK, hm]

theorem view_congr {h h' : Heap} {t : Nat} (hst : h'.states[t]? = h.states[t]?)
    (hcl : ∀ st, h.states[t]? = some st → ∀ r ∈ st.clusters,
      clusterView (h'.cluster r) = clusterView (h.cluster r)) : view h' t = view h t := by
  unfold view Heap.state?
  rw [hst]
  cases hs : h.states[t]? with
  | none => rfl
  | some st =>
    simp only [Option.map_some, Option.some.injEq, StateView.mk.injEq, true_and, and_true]
    exact List.map_congr_left (hcl st hs)

/-! ### the predicates of C13 -/

/-- ownership discipline of the algorithm's states: every state has `K` distinct, allocated
cluster objects, no cluster object belongs to two states, and every state's argument bundle is
an allocated object. -/
structure Owned (h : Heap) : Prop where
  wf : ∀ (s : Nat) (st : State), h.states[s]? = some st →
    st.clusters.Nodup ∧ (∀ r ∈ st.clusters, r < h.clusters.length) ∧
    st.clusters.length = (h.argsOf st.args).K
  sep : ∀ (s t : Nat) (ss st : State), s ≠ t → h.states[s]? = some ss → h.states[t]? = some st →
    ∀ r ∈ ss.clusters, r ∉ st.clusters
  args : ∀ (s : Nat) (st : State), h.states[s]? = some st → st.args < h.args.length

/-- the scoring cache of a state is in step with its fitted MRFs (true after `optPhase`). -/
def Scored (h : Heap) (s : Nat) : Prop :=
  ∀ st : State, h.states[s]? = some st → ∀ r ∈ st.clusters,
    (h.cluster r).logDet = (h.cluster r).trainInv.map (·.val)

/-- every cluster of the state carries fitted statistics (true after `statsPhase` + `optPhase`):
none of the array-valued attributes the view reports is still `None`. -/
def Fitted (h : Heap) (s : Nat) : Prop :=
  ∀ st : State, h.states[s]? = some st → ∀ r ∈ st.clusters,
    (h.cluster r).mean ≠ none ∧ (h.cluster r).empCov ≠ none ∧
    (h.cluster r).trainInv ≠ none ∧ (h.cluster r).computedCov ≠ none

def Inv (h : Heap) (s : Nat) : Prop := InvB h s = true

/-- what `Fitted` asks of each cluster cell. -/
def fitC (c : Cluster) : Prop :=
  c.mean ≠ none ∧ c.empCov ≠ none ∧ c.trainInv ≠ none ∧ c.computedCov ≠ none

theorem Inv.get {h : Heap} {s : Nat} (hi : Inv h s) : ∃ st, h.states[s]? = some st := by
  rw [Inv, InvB_eq] at hi
  cases hs : h.states[s]? with
  | none => simp [hs] at hi
  | some st => exact ⟨st, rfl⟩

theorem Inv.lt {h : Heap} {s : Nat} (hi : Inv h s) : s < h.states.length :=
  let ⟨_, e⟩ := hi.get; (List.getElem?_eq_some_iff.mp e).1

/-- under the discipline `K` is the number of clusters, so the invariant can be read off the view. -/
theorem Owned.InvB_view {h : Heap} (ho : Owned h) (s : Nat) :
    InvB h s = match view h s with
      | none => false
      | some v => invCore v.clusters.length v.labels (v.clusters.map (·.members)) := by
  rw [InvB_eq]
  unfold view Heap.state?
  cases hs : h.states[s]? with
  | none => rfl
  | some st =>
    simp only [Option.map_some, memberLists, List.length_map, List.map_map, (ho.wf s st hs).2.2]
    -- the two sides now differ only in `(clusterView c).members` for `c.members`
    rfl

theorem InvB_of_view {h h' : Heap} {t t' : Nat} (ho : Owned h) (ho' : Owned h')
    (e : view h' t' = view h t) : InvB h' t' = InvB h t := by
  rw [ho.InvB_view, ho'.InvB_view, e]

/-! ### frames: `Shape`, `CO`, `Local`, `Ext` -/

/-- the part of a state cell that no modelled write changes except `setClusters` / the statistics
loop (clusters) — labels, cost, list identity are free. -/
def ca (st : State) : List Nat × Nat × Arr := (st.clusters, st.args, st.data)

theorem ca_clusters {st st' : State} (e : ca st = ca st') : st.clusters = st'.clusters :=
  congrArg Prod.fst e

theorem ca_args {st st' : State} (e : ca st = ca st') : st.args = st'.args :=
  congrArg (·.2.1) e

structure Shape (h h' : Heap) : Prop where
  states : h'.states.map ca = h.states.map ca
  args : h'.args = h.args
  clen : h'.clusters.length = h.clusters.length

theorem Shape.refl (h : Heap) : Shape h h := ⟨rfl, rfl, rfl⟩

theorem Shape.symm {h h' : Heap} (sh : Shape h h') : Shape h' h :=
  ⟨sh.states.symm, sh.args.symm, sh.clen.symm⟩

theorem Shape.trans {a b c : Heap} (h1 : Shape a b) (h2 : Shape b c) : Shape a c :=
  ⟨h2.states.trans h1.states, h2.args.trans h1.args, h2.clen.trans h1.clen⟩

theorem Shape.get' {h h' : Heap} (sh : Shape h h') {t : Nat} {st : State}
    (e : h.states[t]? = some st) : ∃ st', h'.states[t]? = some st' ∧ ca st' = ca st := by
  have := congrArg (·[t]?) sh.states
  rw [List.getElem?_map, List.getElem?_map, e] at this
  exact Option.map_eq_some_iff.mp this

theorem Shape.get {h h' : Heap} (sh : Shape h h') {t : Nat} {st' : State}
    (e : h'.states[t]? = some st') : ∃ st, h.states[t]? = some st ∧ ca st = ca st' :=
  sh.symm.get' e

theorem Shape.length {h h' : Heap} (sh : Shape h h') : h'.states.length = h.states.length := by
  have := congrArg List.length sh.states
  simpa using this

/-- the discipline mentions a state cell only through `ca`. -/
theorem Shape.owned {h h' : Heap} (sh : Shape h h') (ho : Owned h) : Owned h' := by
  refine ⟨?_, ?_, ?_⟩
  · intro s st' e
    obtain ⟨st, e0, hca⟩ := sh.get e
    rw [← ca_clusters hca, ← ca_args hca, sh.clen, argsOf_congr sh.args]
    exact ho.wf s st e0
  · intro s t ss' st' hne e1 e2
    obtain ⟨ss, e1', hca1⟩ := sh.get e1
    obtain ⟨st, e2', hca2⟩ := sh.get e2
    rw [← ca_clusters hca1, ← ca_clusters hca2]
    exact ho.sep s t ss st hne e1' e2'
  · intro s st' e
    obtain ⟨st, e0, hca⟩ := sh.get e
    rw [← ca_args hca, sh.args]
    exact ho.args s st e0

theorem map_set_eq {α β : Type} {f : α → β} {l : List α} {s : Nat} {a b : α}
    (hs : l[s]? = some a) (e : f b = f a) : (l.set s b).map f = l.map f := by
  obtain ⟨hlt, hv⟩ := List.getElem?_eq_some_iff.mp hs
  rw [List.map_set, e, ← hv, ← List.getElem_map f (h := by simpa using hlt), List.set_getElem_self]

theorem setState_shape {h : Heap} {s : Nat} {st st' : State} (hs : h.states[s]? = some st)
    (e : ca st' = ca st) : Shape h (h.setState s st') :=
  ⟨map_set_eq hs e, rfl, rfl⟩

theorem fresh_shape (h : Heap) : Shape h h.fresh.2 := ⟨rfl, rfl, rfl⟩

/-- only cluster cells were written (none allocated). -/
structure CO (h h' : Heap) : Prop where
  states : h'.states = h.states
  args : h'.args = h.args
  next : h'.next = h.next
  clen : h'.clusters.length = h.clusters.length

theorem CO.refl (h : Heap) : CO h h := ⟨rfl, rfl, rfl, rfl⟩

theorem CO.trans {a b c : Heap} (h1 : CO a b) (h2 : CO b c) : CO a c :=
  ⟨h2.states.trans h1.states, h2.args.trans h1.args, h2.next.trans h1.next,
    h2.clen.trans h1.clen⟩

theorem CO.shape {h h' : Heap} (c : CO h h') : Shape h h' :=
  ⟨by rw [c.states], c.args, c.clen⟩

theorem CO.setCluster (h : Heap) (r : Nat) (c : Cluster) : CO h (h.setCluster r c) :=
  ⟨rfl, rfl, rfl, by simp [Heap.setCluster]⟩

/-- the writes are confined to state `n`: its cell (up to `ca`) and the member lists of its own
cluster cells. -/
structure Local (n : Nat) (h h' : Heap) : Prop where
  shape : Shape h h'
  cells : ∀ t, t ≠ n → h'.states[t]? = h.states[t]?
  foreign : ∀ r, (∀ st, h.states[n]? = some st → r ∉ st.clusters) → h'.cluster r = h.cluster r
  members : ∀ r, ∃ m, h'.cluster r = { h.cluster r with members := m }

/-- stated for a variable: with a cell `h.cluster r` in place of `c` the unifier would unfold the
cell access to compare it with the structure instance. -/
theorem members_only (c : Cluster) : ∃ m, c = { c with members := m } := ⟨c.members, rfl⟩

theorem Local.refl (n : Nat) (h : Heap) : Local n h h :=
  ⟨Shape.refl h, fun _ _ => rfl, fun _ _ => rfl, fun _ => members_only _⟩

theorem Local.trans {n : Nat} {a b c : Heap} (l1 : Local n a b) (l2 : Local n b c) : Local n a c := by
  refine ⟨l1.shape.trans l2.shape, fun t ht => (l2.cells t ht).trans (l1.cells t ht),
    fun r hr => ?_, fun r => ?_⟩
  · rw [l2.foreign r ?_, l1.foreign r hr]
    intro st' e'
    obtain ⟨st, e, hca⟩ := l1.shape.get e'
    exact ca_clusters hca ▸ hr st e
  · obtain ⟨m1, e1⟩ := l1.members r
    obtain ⟨m2, e2⟩ := l2.members r
    exact ⟨m2, by rw [e2, e1]⟩

theorem Local.fresh (n : Nat) (h : Heap) : Local n h h.fresh.2 :=
  ⟨fresh_shape h, fun _ _ => rfl, fun _ _ => rfl, fun _ => members_only _⟩

theorem Local.setState {h : Heap} {n : Nat} {st st' : State} (hn : h.states[n]? = some st)
    (e : ca st' = ca st) : Local n h (h.setState n st') :=
  ⟨setState_shape hn e, fun _ ht => List.getElem?_set_ne (fun e => ht e.symm),
    fun _ _ => rfl, fun _ => members_only _⟩

/-- no other state sees the writes: under the discipline it shares no cell with state `n`. -/
theorem Local.view {n : Nat} {h h' : Heap} (l : Local n h h') (ho : Owned h) {t : Nat}
    (ht : t ≠ n) : view h' t = view h t :=
  view_congr (l.cells t ht) fun stt htt r hr => by
    rw [l.foreign r fun st hn => ho.sep t n stt st ht htt hn r hr]

theorem Local.fitted {n : Nat} {h h' : Heap} (l : Local n h h') {t : Nat} (hf : Fitted h t) :
    Fitted h' t := by
  intro st' e' r hr
  obtain ⟨st, e, hca⟩ := l.shape.get e'
  obtain ⟨m, em⟩ := l.members r
  rw [em]
  exact hf st e r (ca_clusters hca ▸ hr)

structure Ext (h h' : Heap) : Prop where
  owned : Owned h'
  len : h.states.length ≤ h'.states.length
  view : ∀ t, t < h.states.length → view h' t = view h t

theorem Ext.refl {h : Heap} (ho : Owned h) : Ext h h := ⟨ho, Nat.le_refl _, fun _ _ => rfl⟩

theorem Ext.trans {a b c : Heap} (e1 : Ext a b) (e2 : Ext b c) : Ext a c :=
  ⟨e2.owned, Nat.le_trans e1.len e2.len, fun t ht =>
    (e2.view t (Nat.lt_of_lt_of_le ht e1.len)).trans (e1.view t ht)⟩

theorem Ext.local {h h1 h2 : Heap} {n : Nat} (e : Ext h h1) (l : Local n h1 h2)
    (hn : h.states.length ≤ n) : Ext h h2 :=
  ⟨l.shape.owned e.owned, l.shape.length ▸ e.len, fun t ht =>
    (l.view e.owned (Nat.ne_of_lt (Nat.lt_of_lt_of_le ht hn))).trans (e.view t ht)⟩

theorem Ext.inv {h h' : Heap} (e : Ext h h') (ho : Owned h) {t : Nat} (hi : Inv h t) : Inv h' t :=
  (InvB_of_view ho e.owned (e.view t hi.lt)).trans hi

/-! ### folds that only write cluster cells -/

section gen
variable {ι : Type} (tgt : ι → Option Nat) (upd : ι → Cluster → Cluster)

def wstep (h : Heap) (i : ι) : Heap :=
  match tgt i with
  | some r => h.setCluster r (upd i (h.cluster r))
  | none => h

theorem wstep_CO (h : Heap) (i : ι) : CO h (wstep tgt upd h i) := by
  unfold wstep; split
  · exact CO.setCluster _ _ _
  · exact CO.refl _

theorem wfold_CO (items : List ι) (h : Heap) : CO h (items.foldl (wstep tgt upd) h) := by
  induction items generalizing h with
  | nil => exact CO.refl _
  | cons i is ih => exact (wstep_CO tgt upd h i).trans (ih _)

theorem wfold_prop (P : Cluster → Prop) (items : List ι) (h : Heap) {r : Nat}
    (hP : ∀ i ∈ items, tgt i = some r → ∀ c, P c → P (upd i c)) (h0 : P (h.cluster r)) :
    P ((items.foldl (wstep tgt upd) h).cluster r) := by
  induction items generalizing h with
  | nil => exact h0
  | cons i is ih =>
    rw [List.foldl_cons]
    refine ih _ (fun j hj => hP j (List.mem_cons_of_mem _ hj)) ?_
    unfold wstep; split
    · rename_i r0 e
      rw [cluster_setCluster]
      split
      · rename_i hr; rw [← hr.1] at e ⊢; exact hP i List.mem_cons_self e _ h0
      · exact h0
    · exact h0

theorem wfold_other (items : List ι) (h : Heap) {r : Nat} (hne : ∀ i ∈ items, tgt i ≠ some r) :
    (items.foldl (wstep tgt upd) h).cluster r = h.cluster r :=
  wfold_prop tgt upd (· = h.cluster r) items h (fun i hi e => absurd e (hne i hi)) rfl

theorem wfold_hit (Q : Cluster → Prop) (items : List ι) (h : Heap) {r : Nat}
    (hr : r < h.clusters.length)
    (hQ : ∀ i ∈ items, tgt i = some r → ∀ c, Q (upd i c))
    (hex : ∃ i ∈ items, tgt i = some r) : Q ((items.foldl (wstep tgt upd) h).cluster r) := by
  obtain ⟨i, hi, ei⟩ := hex
  obtain ⟨pre, post, rfl⟩ := List.append_of_mem hi
  rw [List.foldl_append, List.foldl_cons]
  -- `Q` holds after the write of item `i`, and the later writes keep it
  refine wfold_prop tgt upd Q post _ (fun j hj ej c _ => hQ j (by simp [hj]) ej c) ?_
  unfold wstep
  rw [ei]
  show Q ((Heap.setCluster _ r _).cluster r)
  rw [cluster_setCluster_self _ ((wfold_CO tgt upd pre h).clen ▸ hr)]
  exact hQ i hi ei _

end gen

theorem Local.wfold {ι : Type} (tgt : ι → Option Nat) (upd : ι → Cluster → Cluster)
    (items : List ι) {h : Heap} {n : Nat} {st : State} (hn : h.states[n]? = some st)
    (htgt : ∀ i ∈ items, ∀ r, tgt i = some r → r ∈ st.clusters)
    (hupd : ∀ i c, ∃ m, upd i c = { c with members := m }) :
    Local n h (items.foldl (wstep tgt upd) h) := by
  have co := wfold_CO tgt upd items h
  refine ⟨co.shape, fun t _ => by rw [co.states], fun r hr => ?_, fun r => ?_⟩
  · exact wfold_other tgt upd items h fun i hi e => hr st hn (htgt i hi r e)
  · refine wfold_prop tgt upd (fun c' => ∃ m, c' = { h.cluster r with members := m }) items h ?_
      (members_only _)
    rintro i - - c ⟨m, rfl⟩
    exact hupd i _

/-! ### the label setter -/

theorem updateMembership_eq (h : Heap) (refs : List Nat) (K : Nat) (ls : List Nat) :
    updateMembership h refs K ls =
      (List.range K).foldl
        (wstep (fun k => refs[k]?) (fun k c => setMembers c (Repop.members ls k))) h := rfl

theorem clearMembership_eq (h : Heap) (refs : List Nat) :
    clearMembership h refs =
      refs.foldl (wstep (fun r => some r) (fun _ c => { c with members := [] })) h := rfl

/-- the three branches of the setter write the same thing. -/
theorem setMembers_eq (c : Cluster) (new : List Nat) :
    setMembers c new = { c with members := new } := by
  unfold setMembers
  by_cases h1 : new = []
  · rw [if_pos h1, h1]
  · by_cases h2 : new = c.members
    · rw [if_neg h1, if_neg (not_not_intro h2), h2]
    · rw [if_neg h1, if_pos h2]

theorem updateMembership_hit (h : Heap) (refs : List Nat) (K : Nat) (ls : List Nat)
    (hnd : refs.Nodup) (hal : ∀ r ∈ refs, r < h.clusters.length) {k r : Nat} (hk : k < K)
    (e : refs[k]? = some r) :
    ((updateMembership h refs K ls).cluster r).members = Repop.members ls k := by
  rw [updateMembership_eq]
  refine wfold_hit _ _ (fun c => c.members = Repop.members ls k) _ _
    (hal r (List.mem_of_getElem? e)) ?_ ⟨k, List.mem_range.mpr hk, e⟩
  intro k' _ e' c
  have hlt : k < refs.length := (List.getElem?_eq_some_iff.mp e).1
  have : k = k' := (List.getElem?_inj hlt hnd).mp (e.trans e'.symm)
  subst this
  rw [setMembers_eq]

theorem clearMembership_hit (h : Heap) (refs : List Nat)
    (hal : ∀ r ∈ refs, r < h.clusters.length) {r : Nat} (hr : r ∈ refs) :
    ((clearMembership h refs).cluster r).members = [] := by
  rw [clearMembership_eq]
  exact wfold_hit _ _ (fun c => c.members = []) _ _ (hal r hr) (fun _ _ _ _ => rfl) ⟨r, hr, rfl⟩

theorem assign_eq_of_ne {h : Heap} {s : Nat} {st : State} (hs : h.states[s]? = some st)
    {lab : Nat × List Nat} (hne : st.labels.map (·.2) ≠ some lab.2) :
    assign h s lab =
      if lab.2 = [] then clearMembership (h.setState s { st with labels := some lab }) st.clusters
      else updateMembership (h.setState s { st with labels := some lab }) st.clusters
        (h.argsOf st.args).K lab.2 := by
  unfold assign Heap.state?
  rw [hs]
  simp only [hne, if_false]

theorem assign_eq_of_eq {h : Heap} {s : Nat} {st : State} (hs : h.states[s]? = some st)
    {lab : Nat × List Nat} (he : st.labels.map (·.2) = some lab.2) : assign h s lab = h := by
  unfold assign Heap.state?
  rw [hs]
  simp only [he, if_true]

theorem assign_eq_of_none {h : Heap} {s : Nat} (hs : h.states[s]? = none)
    (lab : Nat × List Nat) : assign h s lab = h := by
  unfold assign Heap.state?
  rw [hs]

theorem assign_of_ne {h : Heap} {s : Nat} {st : State} (hs : h.states[s]? = some st)
    {lab : Nat × List Nat} (hne : st.labels.map (·.2) ≠ some lab.2) :
    CO (h.setState s { st with labels := some lab }) (assign h s lab) ∧
    Local s (h.setState s { st with labels := some lab }) (assign h s lab) := by
  have hs1 : (h.setState s { st with labels := some lab }).states[s]? =
      some { st with labels := some lab } :=
    List.getElem?_set_self (List.getElem?_eq_some_iff.mp hs).1
  rw [assign_eq_of_ne hs hne]
  split
  · rw [clearMembership_eq]
    exact ⟨wfold_CO _ _ _ _,
      Local.wfold _ _ _ hs1 (fun _ hi _ e => Option.some.inj e ▸ hi) fun _ _ => ⟨_, rfl⟩⟩
  · rw [updateMembership_eq]
    exact ⟨wfold_CO _ _ _ _,
      Local.wfold _ _ _ hs1 (fun _ _ _ e => List.mem_of_getElem? e) fun _ _ => ⟨_, setMembers_eq _ _⟩⟩

theorem assign_local (h : Heap) (s : Nat) (lab : Nat × List Nat) : Local s h (assign h s lab) := by
  cases hs : h.states[s]? with
  | none => rw [assign_eq_of_none hs]; exact Local.refl s h
  | some st =>
    by_cases he : st.labels.map (·.2) = some lab.2
    · rw [assign_eq_of_eq hs he]; exact Local.refl s h
    · exact (Local.setState hs (st' := { st with labels := some lab }) rfl).trans
        (assign_of_ne hs he).2

theorem assign_next (h : Heap) (s : Nat) (lab : Nat × List Nat) : (assign h s lab).next = h.next := by
  cases hs : h.states[s]? with
  | none => rw [assign_eq_of_none hs]
  | some st =>
    by_cases he : st.labels.map (·.2) = some lab.2
    · rw [assign_eq_of_eq hs he]
    · exact (assign_of_ne hs he).1.next

theorem assign_cell {h : Heap} {s : Nat} {st : State} (hs : h.states[s]? = some st)
    (lab : Nat × List Nat) :
    ∃ l, (assign h s lab).states[s]? = some { st with labels := some l } ∧ l.2 = lab.2 := by
  by_cases he : st.labels.map (·.2) = some lab.2
  · rw [assign_eq_of_eq hs he]
    rcases hl : st.labels with _ | l
    · simp [hl] at he
    · exact ⟨l, by rw [hs, ← hl], by simpa [hl] using he⟩
  · refine ⟨lab, ?_, rfl⟩
    rw [(assign_of_ne hs he).1.states]
    exact List.getElem?_set_self (List.getElem?_eq_some_iff.mp hs).1

theorem assign_inv {h : Heap} (ho : Owned h) {s : Nat} {st : State}
    (hs : h.states[s]? = some st) (lab : Nat × List Nat)
    (hne : st.labels.map (·.2) ≠ some lab.2 ∨ Inv h s) : Inv (assign h s lab) s := by
  by_cases he : st.labels.map (·.2) = some lab.2
  · rw [assign_eq_of_eq hs he]
    exact hne.resolve_left (absurd he)
  · obtain ⟨hnd, hal, hlen⟩ := ho.wf s st hs
    obtain ⟨l, hst', hl⟩ := assign_cell hs lab
    rw [Inv, InvB_eq, hst']
    simp only [invCore, memberLists, argsOf_congr (assign_local h s lab).shape.args,
      List.length_map, hlen, decide_true, Bool.true_and, Option.map_some, List.all_eq_true,
      List.mem_range, List.getElem?_map]
    -- cluster `k` now holds the points labelled `k`
    intro k hk
    have hk' : k < st.clusters.length := hlen ▸ hk
    have e := List.getElem?_eq_getElem hk'
    simp only [e, Option.map_some, beq_iff_eq, hl]
    rw [assign_eq_of_ne hs he]
    split
    · rename_i hnil
      rw [hnil, clearMembership_hit (h.setState s _) _ hal (List.getElem_mem hk')]
      simp [Repop.members]
    · exact updateMembership_hit (h.setState s _) _ _ _ hnd hal hk e

/-! ### a new state over fresh copies of the clusters of `st` -/

def copyAll (g : Cluster → Nat → Cluster) (d : Nat) : List Nat → Heap → List Nat × Heap
  | [], h => ([], h)
  | r :: rs, h =>
    let p := copyAll g d rs
      { h with next := h.next + d, clusters := h.clusters ++ [g (h.cluster r) h.next] }
    (h.clusters.length :: p.1, p.2)

def deepOf (c : Cluster) (i : Nat) : Cluster :=
  { c with computedCov := copyArr c.computedCov i, empCov := copyArr c.empCov (i + 1),
           invCov := copyArr c.invCov (i + 2), mean := copyArr c.mean (i + 3),
           trainInv := copyArr c.trainInv (i + 4) }

def optOf (c : Cluster) (i : Nat) : Cluster :=
  { c with computedCov := some ⟨i, i⟩, trainInv := some ⟨i + 1, i + 1⟩, logDet := some (i + 1) }

def statsOf (c : Cluster) (i : Nat) : Cluster :=
  { c with empCov := some ⟨i, i⟩, mean := some ⟨i + 1, i + 1⟩ }

/-- the model's loops take the pair of the recursive call apart with a pattern, `copyAll` with
projections: up to that the steps are the same, so the induction hypothesis is all there is. -/
theorem clustersDeep_eq (rs : List Nat) (h : Heap) : clustersDeep rs h = copyAll deepOf 5 rs h := by
  induction rs generalizing h with
  | nil => rfl
  | cons r rs ih => exact congrArg (fun p => (h.clusters.length :: p.1, p.2)) (ih _)

theorem optClusters_eq (rs : List Nat) (h : Heap) : optClusters rs h = copyAll optOf 2 rs h := by
  induction rs generalizing h with
  | nil => rfl
  | cons r rs ih => exact congrArg (fun p => (h.clusters.length :: p.1, p.2)) (ih _)

def copies (g : Cluster → Nat → Cluster) (d : Nat) : Nat → List Cluster → List Cluster
  | _, [] => []
  | i, c :: cs => g c i :: copies g d (i + d) cs

theorem length_copies (g : Cluster → Nat → Cluster) (d i : Nat) (cs : List Cluster) :
    (copies g d i cs).length = cs.length := by
  induction cs generalizing i with
  | nil => rfl
  | cons c cs ih => simp [copies, ih]

theorem map_copies {β : Type} (f : Cluster → β) (g : Cluster → Nat → Cluster) (d i : Nat)
    {cs : List Cluster} (hf : ∀ c ∈ cs, ∀ j, f (g c j) = f c) :
    (copies g d i cs).map f = cs.map f := by
  induction cs generalizing i with
  | nil => rfl
  | cons c cs ih =>
    rw [copies, List.map_cons, List.map_cons, hf c List.mem_cons_self,
      ih _ fun c hc => hf c (List.mem_cons_of_mem _ hc)]

theorem mem_copies {g : Cluster → Nat → Cluster} {d i : Nat} {cs : List Cluster} {c' : Cluster}
    (hc : c' ∈ copies g d i cs) : ∃ c ∈ cs, ∃ j, i ≤ j ∧ c' = g c j := by
  induction cs generalizing i with
  | nil => simp [copies] at hc
  | cons c cs ih =>
    rcases List.mem_cons.mp hc with rfl | hc
    · exact ⟨c, List.mem_cons_self, i, Nat.le_refl _, rfl⟩
    · obtain ⟨c0, h0, j, hj, e⟩ := ih hc
      exact ⟨c0, List.mem_cons_of_mem _ h0, j, Nat.le_trans (Nat.le_add_right _ _) hj, e⟩

theorem map_cluster_range' {h h' : Heap} {cs : List Cluster} (e : h'.clusters = h.clusters ++ cs) :
    (List.range' h.clusters.length cs.length).map h'.cluster = cs := by
  refine List.ext_getElem (by simp) fun j _ hj => ?_
  rw [List.getElem_map, List.getElem_range', Nat.one_mul,
    cluster_append_right e (List.getElem?_eq_getElem hj)]

section
variable {g : Cluster → Nat → Cluster} {d i : Nat} {h h' : Heap} {rs : List Nat}
  (e : h'.clusters = h.clusters ++ copies g d i (rs.map h.cluster))
include e

theorem copies_range' :
    (List.range' h.clusters.length rs.length).map h'.cluster = copies g d i (rs.map h.cluster) := by
  rw [← map_cluster_range' e, length_copies, List.length_map]

theorem copies_cell {r' : Nat} (hr' : r' ∈ List.range' h.clusters.length rs.length) :
    ∃ r ∈ rs, ∃ j, i ≤ j ∧ h'.cluster r' = g (h.cluster r) j := by
  obtain ⟨c, hc, j, hj, ej⟩ := mem_copies (copies_range' e ▸ List.mem_map_of_mem (f := h'.cluster) hr')
  obtain ⟨r, hr, rfl⟩ := List.mem_map.mp hc
  exact ⟨r, hr, j, hj, ej⟩

theorem copies_map {β : Type} (f : Cluster → β)
    (hf : ∀ r ∈ rs, ∀ j, f (g (h.cluster r) j) = f (h.cluster r)) :
    (List.range' h.clusters.length rs.length).map (fun r => f (h'.cluster r)) =
      rs.map (fun r => f (h.cluster r)) := by
  show List.map (f ∘ h'.cluster) _ = List.map (f ∘ h.cluster) _
  rw [← List.map_map, copies_range' e, map_copies, List.map_map]
  intro c hc j
  obtain ⟨r, hr, rfl⟩ := List.mem_map.mp hc
  exact hf r hr j

end

/-- stated, like the closed forms of `shallowState` and `setClusters` below, for a heap taken
apart, so that the three apply as rewrite rules to whatever heap the steps before have produced. -/
theorem copyAll_eq (g : Cluster → Nat → Cluster) (d : Nat) {rs : List Nat} {cl : List Cluster}
    (hal : ∀ r ∈ rs, r < cl.length) (as : List Args) (ss : List State) (nx : Nat) :
    copyAll g d rs ⟨cl, as, ss, nx⟩ = (List.range' cl.length rs.length,
      ⟨cl ++ copies g d nx (rs.map (Heap.cluster ⟨cl, as, ss, nx⟩)), as, ss, nx + d * rs.length⟩) := by
  induction rs generalizing cl nx with
  | nil => simp [copyAll, copies]
  | cons r rs ih =>
    have hal' : ∀ x ∈ rs, x < cl.length := fun x hx => hal x (List.mem_cons_of_mem _ hx)
    rw [copyAll, ih fun x hx => lt_length_append (hal' x hx) _,
      List.map_congr_left fun x hx =>
        cluster_append_left (h := ⟨cl, as, ss, nx⟩) (h' := ⟨cl ++ [_], as, ss, nx + d⟩) rfl (hal' x hx)]
    simp [copies, List.range'_succ, Nat.mul_succ, Nat.add_assoc, Nat.add_comm d]

theorem shallowState_eq {cl : List Cluster} {as : List Args} {ss : List State} {nx s : Nat}
    {st : State} (hs : ss[s]? = some st) :
    shallowState ⟨cl, as, ss, nx⟩ s =
      (ss.length, ⟨cl, as, ss ++ [{ st with clustersId := nx }], nx + 1⟩) := by
  simp [shallowState, Heap.state?, hs, Heap.fresh, Heap.allocState]

theorem setClusters_last (cl : List Cluster) (as : List Args) (ss : List State) (x : State)
    (nx : Nat) (refs : List Nat) :
    setClusters ⟨cl, as, ss ++ [x], nx⟩ ss.length refs =
      ⟨cl, as, ss ++ [{ x with clusters := refs, clustersId := nx }], nx + 1⟩ := by
  simp [setClusters, Heap.state?, Heap.fresh, Heap.setState]

theorem getElem?_append_singleton {α : Type} {l : List α} {y x : α} {t : Nat}
    (e : (l ++ [y])[t]? = some x) : l[t]? = some x ∨ (t = l.length ∧ x = y) := by
  have ht : t < (l ++ [y]).length := (List.getElem?_eq_some_iff.mp e).1
  rw [List.length_append, List.length_singleton] at ht
  rcases Nat.lt_succ_iff_lt_or_eq.mp ht with ht | rfl
  · exact Or.inl (List.getElem?_append_left ht ▸ e)
  · exact Or.inr ⟨rfl, (Option.some.inj (List.getElem?_concat_length.symm.trans e)).symm⟩

theorem Owned.snoc {h : Heap} (ho : Owned h) (cs : List Cluster) {y : State} (nx : Nat)
    (hnd : y.clusters.Nodup)
    (hnew : ∀ r ∈ y.clusters, h.clusters.length ≤ r ∧ r < h.clusters.length + cs.length)
    (hK : y.clusters.length = (h.argsOf y.args).K) (ha : y.args < h.args.length) :
    Owned ⟨h.clusters ++ cs, h.args, h.states ++ [y], nx⟩ := by
  -- a reference of an old state is allocated in `h`, one of `y` is not
  have hsep : ∀ {t : Nat} {stt : State}, h.states[t]? = some stt →
      ∀ r ∈ stt.clusters, r ∉ y.clusters := fun e r hr hr' =>
    Nat.not_lt.mpr (hnew r hr').1 ((ho.wf _ _ e).2.1 r hr)
  refine ⟨?_, ?_, ?_⟩
  · intro t stt e
    rcases getElem?_append_singleton e with e | ⟨_, rfl⟩
    · obtain ⟨w1, w2, w3⟩ := ho.wf t stt e
      exact ⟨w1, fun r hr => lt_length_append (w2 r hr) cs, w3⟩
    · exact ⟨hnd, fun r hr => List.length_append ▸ (hnew r hr).2, hK⟩
  · intro t u stt stu hne e1 e2 r hr hr'
    rcases getElem?_append_singleton e1 with f1 | ⟨ht, rfl⟩ <;>
      rcases getElem?_append_singleton e2 with f2 | ⟨hu, rfl⟩
    · exact ho.sep t u stt stu hne f1 f2 r hr hr'
    · exact hsep f1 r hr hr'
    · exact hsep f2 r hr' hr
    · exact hne (ht.trans hu.symm)
  · intro t stt e
    rcases getElem?_append_singleton e with e | ⟨_, rfl⟩
    · exact ho.args t stt e
    · exact ha

/-- `h'` is `h` plus one state, a copy of `st` (up to the identity of its cluster list) over newly
allocated cells that are `g`-copies of the cells of `st`. -/
def Fresh (g : Cluster → Nat → Cluster) (h h' : Heap) (st : State) : Prop :=
  ∃ d i lid nx : Nat, h' = ⟨h.clusters ++ copies g d i (st.clusters.map h.cluster), h.args,
    h.states ++ [{ st with
      clusters := List.range' h.clusters.length st.clusters.length, clustersId := lid }], nx⟩

theorem Fresh.ext {g : Cluster → Nat → Cluster} {h h' : Heap} {s : Nat} {st : State}
    (F : Fresh g h h' st) (ho : Owned h) (hs : h.states[s]? = some st) : Ext h h' := by
  obtain ⟨d, i, lid, nx, rfl⟩ := F
  refine ⟨ho.snoc _ nx (List.nodup_range' 1) (fun r hr => ?_) ?_ (ho.args s st hs), by simp,
    fun t ht => view_congr (List.getElem?_append_left ht) fun stt htt r hr => ?_⟩
  · rw [List.mem_range'_1] at hr; rw [length_copies, List.length_map]; omega
  · rw [List.length_range']; exact (ho.wf s st hs).2.2
  · rw [cluster_append_left (h := h) rfl ((ho.wf t stt htt).2.1 r hr)]

theorem Fresh.get {g : Cluster → Nat → Cluster} {h h' : Heap} {st : State} (F : Fresh g h h' st) :
    ∃ d i lid, h'.clusters = h.clusters ++ copies g d i (st.clusters.map h.cluster) ∧ h'.args = h.args ∧
      h'.states[h.states.length]? = some { st with
        clusters := List.range' h.clusters.length st.clusters.length, clustersId := lid } := by
  obtain ⟨d, i, lid, nx, rfl⟩ := F
  exact ⟨d, i, lid, rfl, rfl, List.getElem?_concat_length⟩

section
variable {g : Cluster → Nat → Cluster} {h h' : Heap} {s : Nat} {st : State} (F : Fresh g h h' st)
include F

/-- every cell of the new state is a `g`-copy of a cell of `st`. -/
theorem Fresh.cells (P : Cluster → Prop) (hP : ∀ r ∈ st.clusters, ∀ i, P (g (h.cluster r) i)) {y : State}
    (hy : h'.states[h.states.length]? = some y) : ∀ r' ∈ y.clusters, P (h'.cluster r') := by
  obtain ⟨d, i, lid, hcl, -, hy'⟩ := F.get
  intro r' hr'
  rw [← Option.some.inj (hy'.symm.trans hy)] at hr'
  obtain ⟨r, hr, j, -, ej⟩ := copies_cell hcl hr'
  exact ej ▸ hP r hr j

variable (hs : h.states[s]? = some st)
include hs

theorem Fresh.labels : (view h' h.states.length).map (·.labels) = (view h s).map (·.labels) := by
  obtain ⟨d, i, lid, -, -, hy⟩ := F.get
  simp [view, Heap.state?, hy, hs]

/-- copies that keep the member lists hand the invariant on to the new state. -/
theorem Fresh.inv (hg : ∀ c i, (g c i).members = c.members) (hi : Inv h s) : Inv h' h.states.length := by
  obtain ⟨d, i, lid, hcl, ha, hy⟩ := F.get
  exact (InvB_congr hs hy rfl (by rw [argsOf_congr ha]) (copies_map hcl (·.members) fun _ _ _ => hg _ _)).trans hi

end

/-! ### repopulation phase -/

/-- one labelling assigned under a new list identity, the way the phases do it. -/
theorem assign_fresh {h : Heap} (ho : Owned h) {n : Nat} (hi : Inv h n) (ls : List Nat) :
    Local n h (assign h.fresh.2 n (h.fresh.1, ls)) ∧ Inv (assign h.fresh.2 n (h.fresh.1, ls)) n := by
  obtain ⟨stn, hn⟩ := Inv.get (h := h.fresh.2) hi
  exact ⟨(Local.fresh n h).trans (assign_local h.fresh.2 n (h.fresh.1, ls)),
    assign_inv ((fresh_shape h).owned ho) hn _ (Or.inr hi)⟩

theorem assign_fold (n : Nat) (moves : List (List Nat)) (h : Heap) (ho : Owned h) (hi : Inv h n) :
    Local n h (moves.foldl (fun h' ls => assign h'.fresh.2 n (h'.fresh.1, ls)) h) ∧
    Inv (moves.foldl (fun h' ls => assign h'.fresh.2 n (h'.fresh.1, ls)) h) n := by
  induction moves generalizing h with
  | nil => exact ⟨Local.refl n h, hi⟩
  | cons ls moves ih =>
    obtain ⟨l, i⟩ := assign_fresh ho hi ls
    obtain ⟨j1, j2⟩ := ih _ (l.shape.owned ho) i
    exact ⟨l.trans j1, j2⟩

/-- the copy order of this phase and of the relabelling phase: shallow state copy, copies of all
its clusters, then `state.clusters = copies`. -/
theorem repopPhase_nf {h : Heap} {s : Nat} {st : State} (hs : h.states[s]? = some st)
    (hal : ∀ r ∈ st.clusters, r < h.clusters.length) (hrep : needsRepop h st = true)
    (moves : List (List Nat)) :
    ∃ hF, Fresh deepOf h hF st ∧ repopPhase h s moves = (h.states.length,
      moves.foldl (fun h' ls => assign h'.fresh.2 h.states.length (h'.fresh.1, ls)) hF) := by
  obtain ⟨cl, as, ss, nx⟩ := h
  exact ⟨_, ⟨5, nx + 1, _, _, rfl⟩, by
    simp only [repopPhase, Heap.state?, hs, hrep, shallowState_eq hs, clustersDeep_eq,
      copyAll_eq _ _ hal, setClusters_last]
    rfl⟩

theorem repop_phase {h : Heap} (ho : Owned h) {s : Nat} (hi : Inv h s) {moves : List (List Nat)}
    {n : Nat} {h' : Heap} (e : repopPhase h s moves = (n, h')) : Ext h h' ∧ Inv h' n := by
  obtain ⟨st, hs⟩ := hi.get
  by_cases hrep : needsRepop h st = true
  · obtain ⟨hF, F, e'⟩ := repopPhase_nf hs (ho.wf s st hs).2.1 hrep moves
    cases e'.symm.trans e
    have e := F.ext ho hs
    obtain ⟨l, i⟩ := assign_fold h.states.length moves _ e.owned (F.inv hs (fun _ _ => rfl) hi)
    exact ⟨e.local l (Nat.le_refl _), i⟩
  · simp only [repopPhase, Heap.state?, hs, hrep] at e
    cases e
    exact ⟨Ext.refl ho, hi⟩

/-! ### optimisation phase -/

/-- this phase copies first and then makes the shallow state copy. -/
theorem optPhase_nf {h : Heap} {s : Nat} {st : State} (hs : h.states[s]? = some st)
    (hal : ∀ r ∈ st.clusters, r < h.clusters.length) :
    ∃ hF, Fresh optOf h hF st ∧ optPhase h s = (h.states.length, hF) := by
  obtain ⟨cl, as, ss, nx⟩ := h
  exact ⟨_, ⟨2, nx, _, _, rfl⟩, by
    simp only [optPhase, Heap.state?, hs, optClusters_eq, copyAll_eq _ _ hal, shallowState_eq hs,
      setClusters_last]
    rfl⟩

theorem opt_phase {h : Heap} (ho : Owned h) {s : Nat} (hi : Inv h s) {n : Nat} {h' : Heap}
    (e : optPhase h s = (n, h')) :
    Ext h h' ∧ Inv h' n ∧ Scored h' n ∧ (view h' n).map (·.labels) = (view h s).map (·.labels) := by
  obtain ⟨st, hs⟩ := hi.get
  obtain ⟨hF, F, e'⟩ := optPhase_nf hs (ho.wf s st hs).2.1
  cases e'.symm.trans e
  exact ⟨F.ext ho hs, F.inv hs (fun _ _ => rfl) hi,
    fun _ => F.cells (fun c => c.logDet = c.trainInv.map (·.val)) fun _ _ _ => rfl, F.labels hs⟩

/-! ### statistics phase -/

def statsStep (n : Nat) (h : Heap) (k : Nat) : Heap :=
  match h.state? n with
  | none => h
  | some stn =>
    match stn.clusters[k]? with
    | none => h
    | some r =>
      (⟨h.clusters ++ [statsOf (h.cluster r) h.next], h.args, h.states, h.next + 2⟩ : Heap).setState n
        { stn with clusters := stn.clusters.set k h.clusters.length }

theorem statsPhase_eq {h : Heap} {s : Nat} {st : State} (hs : h.states[s]? = some st) :
    statsPhase h s = (h.states.length,
      (List.range (h.argsOf st.args).K).foldl (statsStep h.states.length)
        ⟨h.clusters, h.args, h.states ++ [{ st with clustersId := h.next }], h.next + 1⟩) := by
  obtain ⟨cl, as, ss, nx⟩ := h
  simp only [statsPhase, Heap.state?, hs, shallowState_eq hs, List.getElem?_concat_length,
    Option.map_some, Option.getD_some]
  rfl

/-- the loop from position `pre.length` on: the references `rs` not yet visited are replaced, in
order, by new cells (`cs` are the cells allocated so far). -/
theorem stats_loop {h : Heap} (ss : List State) (x : State) (rs pre : List Nat) (cs : List Cluster)
    (nx : Nat) (hal : ∀ r ∈ rs, r < h.clusters.length) :
    (List.range' pre.length rs.length).foldl (statsStep ss.length)
        ⟨h.clusters ++ cs, h.args, ss ++ [{ x with clusters := pre ++ rs }], nx⟩ =
      ⟨h.clusters ++ (cs ++ copies statsOf 2 nx (rs.map h.cluster)), h.args,
        ss ++ [{ x with clusters := pre ++ List.range' (h.clusters.length + cs.length) rs.length }],
        nx + 2 * rs.length⟩ := by
  induction rs generalizing pre cs nx with
  | nil => simp [copies]
  | cons r rs ih =>
    have step : statsStep ss.length
        ⟨h.clusters ++ cs, h.args, ss ++ [{ x with clusters := pre ++ r :: rs }], nx⟩ pre.length =
        ⟨h.clusters ++ (cs ++ [statsOf (h.cluster r) nx]), h.args,
          ss ++ [{ x with clusters := (pre ++ [h.clusters.length + cs.length]) ++ rs }], nx + 2⟩ := by
      -- `simp`'s list lemmas: position `pre.length` of `pre ++ r :: rs` holds `r`, and writing there gives `pre ++ new :: rs`
      simp [statsStep, Heap.state?, Heap.setState,
        cluster_append_left (h := h) (h' := ⟨h.clusters ++ cs, _, _, _⟩) rfl (hal r List.mem_cons_self)]
    have ih := ih (pre ++ [h.clusters.length + cs.length]) (cs ++ [statsOf (h.cluster r) nx]) (nx + 2)
      fun x hx => hal x (List.mem_cons_of_mem _ hx)
    rw [List.length_append, List.length_singleton] at ih
    rw [List.length_cons, List.range'_succ, List.foldl_cons, step, ih]
    simp [copies, List.range'_succ, Nat.mul_succ, Nat.add_assoc, Nat.add_comm 2]

theorem statsPhase_nf {h : Heap} (ho : Owned h) {s : Nat} {st : State}
    (hs : h.states[s]? = some st) :
    ∃ hF, Fresh statsOf h hF st ∧ statsPhase h s = (h.states.length, hF) := by
  obtain ⟨_, hal, hK⟩ := ho.wf s st hs
  refine ⟨_, ⟨2, h.next + 1, h.next, h.next + 1 + 2 * st.clusters.length, rfl⟩, ?_⟩
  rw [statsPhase_eq hs, ← hK, List.range_eq_range']
  have := stats_loop h.states { st with clustersId := h.next } st.clusters [] [] (h.next + 1) hal
  simpa using this

theorem stats_phase {h : Heap} (ho : Owned h) {s : Nat} (hi : Inv h s) {n : Nat} {h' : Heap}
    (e : statsPhase h s = (n, h')) :
    Ext h h' ∧ Inv h' n ∧ (view h' n).map (·.labels) = (view h s).map (·.labels) := by
  obtain ⟨st, hs⟩ := hi.get
  obtain ⟨hF, F, e'⟩ := statsPhase_nf ho hs
  cases e'.symm.trans e
  exact ⟨F.ext ho hs, F.inv hs (fun _ _ => rfl) hi, F.labels hs⟩

/-! ### relabelling phase -/

def rsc (c : Cluster) : Cluster :=
  { c with invCov := c.trainInv, logDet := c.trainInv.map (·.val) }

theorem refreshScoring_eq (h : Heap) (refs : List Nat) (K : Nat) :
    refreshScoring h refs K =
      (List.range K).foldl (wstep (fun k => refs[k]?) (fun _ c => rsc c)) h := rfl

theorem refreshScoring_CO (h : Heap) (refs : List Nat) (K : Nat) :
    CO h (refreshScoring h refs K) := by
  rw [refreshScoring_eq]; exact wfold_CO _ _ _ _

/-- the refresh writes what `Scored` says is there already (it only re-aliases the cache). -/
theorem refreshScoring_view {h : Heap} {refs : List Nat} (K : Nat)
    (hsc : ∀ r ∈ refs, (h.cluster r).logDet = (h.cluster r).trainInv.map (·.val)) (r : Nat) :
    clusterView ((refreshScoring h refs K).cluster r) = clusterView (h.cluster r) := by
  rw [refreshScoring_eq]
  by_cases hr : r ∈ refs
  · have := wfold_prop (fun k => refs[k]?) (fun _ c => rsc c)
      (fun c' => c' = h.cluster r ∨ c' = rsc (h.cluster r)) (List.range K) h
      (by rintro _ - - c (rfl | rfl) <;> exact Or.inr rfl) (Or.inl rfl)
    rcases this with e | e <;> rw [e]
    simp only [clusterView, rsc, ClusterView.mk.injEq, true_and]
    exact (hsc r hr).symm
  · rw [wfold_other _ _ _ _ fun k _ e => hr (List.mem_of_getElem? e)]

/-- `new_model.label_assignment_cost = cost`, the last write of `predict_cluster_labels`. -/
def setCost (h : Heap) (n : Nat) (cost : Nat) : Heap :=
  match h.state? n with
  | none => h
  | some stn => h.setState n { stn with cost := some cost }

theorem setCost_eq {h : Heap} {n : Nat} {stn : State} (hn : h.states[n]? = some stn) (cost : Nat) :
    setCost h n cost = h.setState n { stn with cost := some cost } := by
  unfold setCost Heap.state?; rw [hn]

theorem setCost_local (h : Heap) (n cost : Nat) : Local n h (setCost h n cost) := by
  cases hn : h.states[n]? with
  | none => unfold setCost Heap.state?; rw [hn]; exact Local.refl n h
  | some stn => rw [setCost_eq hn]; exact Local.setState hn rfl

theorem view_labels {h : Heap} {n : Nat} {st : State} (hn : h.states[n]? = some st) :
    (view h n).bind (·.labels) = st.labels.map (·.2) := by
  simp [view, Heap.state?, hn]

theorem relabelPhase_eq {h : Heap} {s : Nat} {st : State} (hs : h.states[s]? = some st)
    (newLabels : List Nat) (cost : Nat) :
    relabelPhase h s newLabels cost =
      let p := shallowState (refreshScoring h st.clusters (h.argsOf st.args).K) s
      let q := copyAll deepOf 5 st.clusters p.2
      let h3 := setClusters q.2 p.1 q.1
      (p.1, setCost (assign h3.fresh.2 p.1 (h3.fresh.1, newLabels)) p.1 cost) := by
  unfold relabelPhase
  simp only [Heap.state?, hs, clustersDeep_eq, setCost]
  generalize (assign _ _ _).states[(_ : Nat)]? = q
  cases q <;> rfl

theorem relabelPhase_nf {h : Heap} {s : Nat} {st : State} (hs : h.states[s]? = some st)
    (hal : ∀ r ∈ st.clusters, r < h.clusters.length) (newLabels : List Nat) (cost : Nat) :
    ∃ hF, Fresh deepOf (refreshScoring h st.clusters (h.argsOf st.args).K) hF st ∧
      relabelPhase h s newLabels cost = (h.states.length,
        setCost (assign hF.fresh.2 h.states.length (hF.fresh.1, newLabels)) h.states.length cost) := by
  have co := refreshScoring_CO h st.clusters (h.argsOf st.args).K
  rw [relabelPhase_eq hs]
  generalize refreshScoring h st.clusters (h.argsOf st.args).K = h0 at co ⊢
  obtain ⟨cl, as, ss, nx⟩ := h0
  obtain rfl : ss = h.states := co.states
  have hal0 : ∀ r ∈ st.clusters, r < cl.length := fun r hr => co.clen ▸ hal r hr
  exact ⟨_, ⟨5, nx + 1, _, _, rfl⟩, by
    simp only [shallowState_eq hs, copyAll_eq _ _ hal0, setClusters_last]
    rfl⟩

theorem relabel_phase {h : Heap} (ho : Owned h) {s : Nat} (hi : Inv h s) (hsc : Scored h s)
    {newLabels : List Nat} {cost n : Nat} {h' : Heap}
    (e : relabelPhase h s newLabels cost = (n, h')) :
    Ext h h' ∧ Inv h' n ∧ (view h' n).bind (·.labels) = some newLabels := by
  obtain ⟨st, hs⟩ := hi.get
  obtain ⟨hF, F, e'⟩ := relabelPhase_nf hs (ho.wf s st hs).2.1 newLabels cost
  cases e'.symm.trans e
  have co := refreshScoring_CO h st.clusters (h.argsOf st.args).K
  have hv := refreshScoring_view (h.argsOf st.args).K (hsc st hs)
  generalize refreshScoring h st.clusters (h.argsOf st.args).K = h0 at co hv F
  have e0 : Ext h h0 := ⟨co.shape.owned ho, Nat.le_of_eq (by rw [co.states]), fun t _ =>
    view_congr (by rw [co.states]) fun _ _ r _ => hv r⟩
  have hs0 : h0.states[s]? = some st := co.states ▸ hs
  have hL : h0.states.length = h.states.length := by rw [co.states]
  have eF := e0.trans (F.ext e0.owned hs0)
  have hiF : Inv hF h.states.length := hL ▸ F.inv hs0 (fun _ _ => rfl) (e0.inv ho hi)
  obtain ⟨stn, hn⟩ := hiF.get
  obtain ⟨loc, hi5⟩ := assign_fresh eF.owned hiF newLabels
  obtain ⟨l, hn5, hl⟩ := assign_cell (h := hF.fresh.2) hn (hF.fresh.1, newLabels)
  generalize assign hF.fresh.2 h.states.length (hF.fresh.1, newLabels) = h5 at hi5 hn5 loc ⊢
  have hnc : (setCost h5 h.states.length cost).states[h.states.length]? =
      some { ({ stn with labels := some l } : State) with cost := some cost } := by
    rw [setCost_eq hn5]; exact List.getElem?_set_self (List.getElem?_eq_some_iff.mp hn5).1
  refine ⟨eF.local (loc.trans (setCost_local h5 _ cost)) (Nat.le_refl _), ?_, ?_⟩
  · exact (InvB_congr hn5 hnc rfl (by rw [setCost_eq hn5]; rfl) (by rw [setCost_eq hn5]; rfl)).trans hi5
  · rw [view_labels hnc]; simpa using hl

/-! ### deep copies of a state -/

def argsCopy (repaired : Bool) (x : Args) (i : Nat) : Args :=
  if repaired then { x with lam := copyParam x.lam i, beta := copyParam x.beta (i + 1) } else x

/-- `i` is the first identity after the cluster copies (5 each) and the argument copy. -/
theorem deepState_eq (repaired : Bool) {h : Heap} {s : Nat} {st : State}
    (hs : h.states[s]? = some st) (hal : ∀ r ∈ st.clusters, r < h.clusters.length) :
    ∃ i, i = h.next + 5 * st.clusters.length + (if repaired then 2 else 0) ∧
      deepState repaired h s = (h.states.length,
        ⟨h.clusters ++ copies deepOf 5 h.next (st.clusters.map h.cluster),
         h.args ++ [argsCopy repaired (h.argsOf st.args) (h.next + 5 * st.clusters.length)],
         h.states ++ [⟨List.range' h.clusters.length st.clusters.length, i,
            st.labels.map (fun l => (i + 1, l.2)), h.args.length, ⟨i + 2, st.data.val⟩,
            copyArr st.pll (i + 3), st.cost⟩],
         i + 4⟩) := by
  obtain ⟨cl, as, ss, nx⟩ := h
  refine ⟨_, rfl, ?_⟩
  simp only [deepState, Heap.state?, hs, clustersDeep_eq, copyAll_eq _ _ hal]
  cases repaired <;> rfl

theorem copyArr_val (a : Option Arr) (i : Nat) (ha : a ≠ none) :
    (copyArr a i).map (·.val) = a.map (·.val) := by
  cases a with
  | none => exact absurd rfl ha
  | some x => rfl

theorem deepState_view (repaired : Bool) {h : Heap} {s : Nat} {st : State}
    (hs : h.states[s]? = some st) (hal : ∀ r ∈ st.clusters, r < h.clusters.length)
    (hfit : ∀ r ∈ st.clusters, fitC (h.cluster r)) :
    view (deepState repaired h s).2 (deepState repaired h s).1 = view h s ∧
    view (deepState repaired h s).2 s = view h s := by
  obtain ⟨i, -, e⟩ := deepState_eq repaired hs hal
  rw [e]
  constructor
  · simp only [view, Heap.state?, List.getElem?_concat_length, hs, Option.map_some,
      Option.some.injEq, StateView.mk.injEq, and_true, Option.map_map]
    refine ⟨by cases st.labels <;> rfl, copies_map (h' := ⟨_, _, _, _⟩) rfl clusterView fun r hr j => ?_⟩
    obtain ⟨f1, f2, f3, f4⟩ := hfit r hr
    simp only [clusterView, deepOf, ClusterView.mk.injEq, true_and, and_true]
    exact ⟨copyArr_val _ _ f1, copyArr_val _ _ f2, copyArr_val _ _ f3, copyArr_val _ _ f4⟩
  · refine view_congr (List.getElem?_append_left (List.getElem?_eq_some_iff.mp hs).1) ?_
    intro st' hs' r hr
    rw [cluster_append_left (h := h) rfl (hal r (Option.some.inj (hs.symm.trans hs') ▸ hr))]

/-! ### reachability -/

theorem mem_arrObjs {o : Obj} {a : Option Arr} : o ∈ arrObjs a ↔ ∃ x, a = some x ∧ o = .obj x.id := by
  cases a <;> simp [arrObjs]

theorem mem_paramObjs {o : Obj} {p : Param} : o ∈ paramObjs p ↔ ∃ x, p = .array x ∧ o = .obj x.id := by
  cases p <;> simp [paramObjs]

theorem mem_clusterObjs {o : Obj} {h : Heap} {r : Nat} :
    o ∈ clusterObjs h r ↔ o = .cluster r ∨ ∃ x, o = .obj x.id ∧
      ((h.cluster r).computedCov = some x ∨ (h.cluster r).empCov = some x ∨
       (h.cluster r).invCov = some x ∨ (h.cluster r).mean = some x ∨
       (h.cluster r).trainInv = some x) := by
  simp only [clusterObjs, List.mem_cons, List.mem_append, mem_arrObjs, or_assoc, ← exists_or,
    ← and_or_left, and_comm (b := o = _)]

theorem mem_reachable {o : Obj} {h : Heap} {s : Nat} {st : State} (hs : h.states[s]? = some st) :
    o ∈ reachable h s ↔
      o = .obj st.clustersId ∨ (∃ r ∈ st.clusters, o ∈ clusterObjs h r) ∨
      (∃ l, st.labels = some l ∧ o = .obj l.1) ∨ o = .args st.args ∨
      o ∈ paramObjs (h.argsOf st.args).lam ∨ o ∈ paramObjs (h.argsOf st.args).beta ∨
      o = .obj st.data.id ∨ o ∈ arrObjs st.pll := by
  unfold reachable
  rw [show h.state? s = some st from hs]
  simp only [List.mem_append, List.mem_flatMap, List.mem_cons, List.not_mem_nil, or_false,
    or_assoc]
  -- the two sides differ in how they say "the identity of the label list, if there is one"
  refine or_congr_right (or_congr_right (or_congr_left ?_))
  cases st.labels <;> simp

theorem reachable_congr {h h' : Heap} {s : Nat} {st : State} (hs : h.states[s]? = some st)
    (hs' : h'.states[s]? = some st) (hc : ∀ r ∈ st.clusters, h'.cluster r = h.cluster r)
    (ha : h'.argsOf st.args = h.argsOf st.args) (o : Obj) :
    o ∈ reachable h' s ↔ o ∈ reachable h s := by
  rw [mem_reachable hs, mem_reachable hs', ha]
  rw [exists_congr fun r => and_congr_right fun hr =>
    (by rw [mem_clusterObjs, mem_clusterObjs, hc r hr] : o ∈ clusterObjs h' r ↔ o ∈ clusterObjs h r)]

theorem copyParam_id {p : Param} {i : Nat} {a : Arr} (e : copyParam p i = .array a) : a.id = i := by
  cases p with
  | scalar v => simp [copyParam] at e
  | array b =>
    simp only [copyParam, Param.array.injEq] at e
    rw [← e]

theorem copyArr_id {a : Option Arr} {i : Nat} {x : Arr} (e : copyArr a i = some x) : x.id = i := by
  simp only [copyArr, Option.some.injEq] at e
  rw [← e]

def Obj.old (h : Heap) : Obj → Prop
  | .obj i => i < h.next
  | .cluster r => r < h.clusters.length
  | .args a => a < h.args.length

theorem reachable_old {h : Heap} (ho : Owned h) {s : Nat} {st : State}
    (hs : h.states[s]? = some st) (hfresh : ∀ o ∈ reachable h s, ∀ i, o = .obj i → i < h.next)
    {o : Obj} (hmem : o ∈ reachable h s) : o.old h := by
  -- every part of the state is an identity (`hfresh`), a cluster cell or the argument bundle
  have hid : ∀ {i}, o = .obj i → o.old h := fun e => e ▸ hfresh o hmem _ e
  rcases (mem_reachable hs).mp hmem with e | ⟨r, hr, e⟩ | ⟨l, -, e⟩ | rfl | e | e | e | e
  · exact hid e
  · rcases mem_clusterObjs.mp e with rfl | ⟨x, e, -⟩
    · exact (ho.wf s st hs).2.1 r hr
    · exact hid e
  · exact hid e
  · exact ho.args s st hs
  · obtain ⟨x, -, e⟩ := mem_paramObjs.mp e; exact hid e
  · obtain ⟨x, -, e⟩ := mem_paramObjs.mp e; exact hid e
  · exact hid e
  · obtain ⟨x, -, e⟩ := mem_arrObjs.mp e; exact hid e

theorem deepState_disjoint {h : Heap} (ho : Owned h) {s : Nat} {st : State}
    (hs : h.states[s]? = some st)
    (hfresh : ∀ o ∈ reachable h s, ∀ i, o = .obj i → i < h.next) :
    ∀ o ∈ reachable (deepState true h s).2 (deepState true h s).1,
      o ∉ reachable (deepState true h s).2 s := by
  obtain ⟨_, hal, _⟩ := ho.wf s st hs
  have haa := ho.args s st hs
  obtain ⟨i, hi, e⟩ := deepState_eq true hs hal
  rw [e]
  simp only [reduceIte] at hi ⊢
  generalize hH : (Heap.mk _ _ _ _) = H'
  have eC : H'.clusters = h.clusters ++ copies deepOf 5 h.next (st.clusters.map h.cluster) := by
    rw [← hH]
  have eA : H'.args = h.args ++ [argsCopy true (h.argsOf st.args) (h.next + 5 * st.clusters.length)] := by
    rw [← hH]
  have hy : H'.states[h.states.length]? = some ⟨List.range' h.clusters.length st.clusters.length, i,
      st.labels.map (fun l => (i + 1, l.2)), h.args.length, ⟨i + 2, st.data.val⟩,
      copyArr st.pll (i + 3), st.cost⟩ := by
    rw [← hH]; exact List.getElem?_concat_length
  -- the source state reaches what it reached in `h` …
  have hold : ∀ o, o ∈ reachable H' s ↔ o ∈ reachable h s := by
    refine reachable_congr hs ?_ (fun r hr => cluster_append_left eC (hal r hr)) ?_
    · rw [← hH]; exact (List.getElem?_append_left (List.getElem?_eq_some_iff.mp hs).1).trans hs
    · simp only [Heap.argsOf, eA, List.getD_eq_getElem?_getD, List.getElem?_append_left haa]
  have hnewargs : H'.argsOf h.args.length =
      argsCopy true (h.argsOf st.args) (h.next + 5 * st.clusters.length) := by
    rw [Heap.argsOf, eA, List.getD_eq_getElem?_getD, List.getElem?_concat_length]; rfl
  intro o hnew hsrc
  have hsrc := reachable_old ho hs hfresh ((hold o).mp hsrc)
  -- … and the copy reaches none of that: identities from `h.next` on, cells and the argument
  -- bundle behind those of `h`
  have new : ∀ {j}, h.next ≤ j → Obj.old h (.obj j) → False := fun hj => Nat.not_lt.mpr hj
  have hp : h.next ≤ h.next + 5 * st.clusters.length := Nat.le_add_right _ _
  have hi0 : h.next ≤ i := hi ▸ Nat.le_add_right_of_le hp
  rw [mem_reachable hy, hnewargs] at hnew
  simp only [argsCopy, reduceIte] at hnew
  rcases hnew with rfl | ⟨r', hr', e⟩ | ⟨l, hl, rfl⟩ | rfl | e | e | rfl | e
  · exact new hi0 hsrc
  · obtain ⟨r, -, i', b1, hcell⟩ := copies_cell eC hr'
    rw [mem_clusterObjs, hcell] at e
    rcases e with rfl | ⟨x, rfl, hx⟩
    · exact Nat.not_lt.mpr (List.mem_range'_1.mp hr').1 hsrc
    · simp only [deepOf] at hx
      rcases hx with hx | hx | hx | hx | hx <;> rw [copyArr_id hx] at hsrc
      · exact new b1 hsrc
      all_goals exact new (Nat.le_add_right_of_le b1) hsrc
  · cases hst : st.labels with
    | none => simp [hst] at hl
    | some l0 =>
      simp only [hst, Option.map_some, Option.some.injEq] at hl
      subst hl
      exact new (Nat.le_add_right_of_le hi0) hsrc
  · exact Nat.lt_irrefl _ hsrc
  · obtain ⟨x, hx, rfl⟩ := mem_paramObjs.mp e
    exact new (copyParam_id hx ▸ hp) hsrc
  · obtain ⟨x, hx, rfl⟩ := mem_paramObjs.mp e
    exact new (copyParam_id hx ▸ Nat.le_add_right_of_le hp) hsrc
  · exact new (Nat.le_add_right_of_le hi0) hsrc
  · obtain ⟨x, hx, rfl⟩ := mem_arrObjs.mp e
    exact new (copyArr_id hx ▸ Nat.le_add_right_of_le hi0) hsrc

/-! ### caller-owned data (C19): unconditional frame -/

/-- the caller-owned part of a state cell. -/
def da (st : State) : Arr × Nat := (st.data, st.args)

structure Grow (h h' : Heap) : Prop where
  args : h'.args = h.args
  len : h.states.length ≤ h'.states.length
  states : ∀ t, t < h.states.length → h'.states[t]?.map da = h.states[t]?.map da

theorem Grow.refl (h : Heap) : Grow h h := ⟨rfl, Nat.le_refl _, fun _ _ => rfl⟩

theorem Grow.trans {a b c : Heap} (h1 : Grow a b) (h2 : Grow b c) : Grow a c :=
  ⟨h2.args.trans h1.args, Nat.le_trans h1.len h2.len, fun t ht =>
    (h2.states t (Nat.lt_of_lt_of_le ht h1.len)).trans (h1.states t ht)⟩

theorem Grow.of_map {h h' : Heap} (ha : h'.args = h.args)
    (hs : h'.states.map da = h.states.map da) : Grow h h' := by
  refine ⟨ha, ?_, fun t _ => ?_⟩
  · have := congrArg List.length hs
    rw [List.length_map, List.length_map] at this
    exact Nat.le_of_eq this.symm
  · have := congrArg (fun l => l[t]?) hs
    simpa only [List.getElem?_map] using this

theorem Shape.map_da {h h' : Heap} (sh : Shape h h') : h'.states.map da = h.states.map da := by
  have := congrArg (List.map (fun p : List Nat × Nat × Arr => (p.2.2, p.2.1))) sh.states
  simp only [List.map_map] at this
  exact this

theorem Shape.grow {h h' : Heap} (sh : Shape h h') : Grow h h' := Grow.of_map sh.args sh.map_da

theorem Grow.append {h : Heap} (cl : List Cluster) (y : State) (nx : Nat) :
    Grow h ⟨cl, h.args, h.states ++ [y], nx⟩ :=
  ⟨rfl, by simp, fun t ht => by show (h.states ++ [y])[t]?.map da = _; rw [List.getElem?_append_left ht]⟩

theorem Grow.clusters {h : Heap} (cl : List Cluster) (nx : Nat) :
    Grow h ⟨cl, h.args, h.states, nx⟩ := ⟨rfl, Nat.le_refl _, fun _ _ => rfl⟩

theorem Grow.foldl {β : Type} (step : Heap → β → Heap) (hstep : ∀ h b, Grow h (step h b))
    (l : List β) (h : Heap) : Grow h (l.foldl step h) := by
  induction l generalizing h with
  | nil => exact Grow.refl _
  | cons b l ih => exact (hstep h b).trans (ih _)

theorem shallowState_grow (h : Heap) (s : Nat) : Grow h (shallowState h s).2 := by
  unfold shallowState
  split
  · exact Grow.refl _
  · exact Grow.append _ _ _

theorem setClusters_grow (h : Heap) (s : Nat) (refs : List Nat) : Grow h (setClusters h s refs) := by
  unfold setClusters
  split
  · exact Grow.refl _
  · rename_i st hs
    exact Grow.of_map rfl (map_set_eq hs rfl)

theorem copyAll_grow (g : Cluster → Nat → Cluster) (d : Nat) (rs : List Nat) (h : Heap) :
    Grow h (copyAll g d rs h).2 := by
  induction rs generalizing h with
  | nil => exact Grow.refl _
  | cons r rs ih => exact (Grow.clusters _ _).trans (ih _)

theorem statsStep_grow (n : Nat) (h : Heap) (k : Nat) : Grow h (statsStep n h k) := by
  unfold statsStep
  split
  · exact Grow.refl _
  · rename_i stn hn
    split
    · exact Grow.refl _
    · exact (Grow.clusters _ _).trans (Grow.of_map rfl (map_set_eq (l := h.states) hn rfl))

theorem repopPhase_grow (h : Heap) (s : Nat) (moves : List (List Nat)) :
    Grow h (repopPhase h s moves).2 := by
  unfold repopPhase
  split
  · exact Grow.refl _
  · split
    · exact Grow.refl _
    · simp only [clustersDeep_eq]
      exact (((shallowState_grow h s).trans (copyAll_grow _ _ _ _)).trans
        (setClusters_grow _ _ _)).trans (Grow.foldl _ (fun h' ls =>
          (fresh_shape h').grow.trans (assign_local _ _ _).shape.grow) _ _)

theorem statsPhase_grow (h : Heap) (s : Nat) : Grow h (statsPhase h s).2 := by
  cases hs : h.states[s]? with
  | none => unfold statsPhase; rw [show h.state? s = none from hs]; exact Grow.refl _
  | some st =>
    rw [statsPhase_eq hs]
    exact (Grow.append _ _ _).trans (Grow.foldl _ (statsStep_grow _) _ _)

theorem optPhase_grow (h : Heap) (s : Nat) : Grow h (optPhase h s).2 := by
  unfold optPhase
  split
  · exact Grow.refl _
  · rw [optClusters_eq]
    exact ((copyAll_grow _ _ _ _).trans (shallowState_grow _ s)).trans (setClusters_grow _ _ _)

theorem relabelPhase_grow (h : Heap) (s : Nat) (newLabels : List Nat) (cost : Nat) :
    Grow h (relabelPhase h s newLabels cost).2 := by
  cases hs : h.states[s]? with
  | none => unfold relabelPhase; rw [show h.state? s = none from hs]; exact Grow.refl _
  | some st =>
    rw [relabelPhase_eq hs]
    -- reduce the `let`s and the projection first: left to `exact`, the unifier unfolds `setCost`
    dsimp only
    exact (((((refreshScoring_CO _ _ _).shape.grow.trans (shallowState_grow _ s)).trans
      (copyAll_grow _ _ _ _)).trans (setClusters_grow _ _ _)).trans
      ((Local.fresh _ _).trans ((assign_local _ _ _).trans (setCost_local _ _ cost))).shape.grow)

theorem callerOwned_congr {h h' : Heap} {t : Nat} (ha : h'.args = h.args)
    (e : h'.states[t]?.map da = h.states[t]?.map da) :
    (h'.state? t).map (fun st => (st.data, h'.argsOf st.args)) =
      (h.state? t).map (fun st => (st.data, h.argsOf st.args)) := by
  have := congrArg (Option.map (fun p : Arr × Nat => (p.1, h.argsOf p.2))) e
  simp only [Option.map_map] at this
  simp only [Heap.state?, argsOf_congr ha]
  exact this

theorem Grow.callerOwned {h h' : Heap} (g : Grow h h') {t : Nat} (ht : t < h.states.length) :
    (h'.state? t).map (fun st => (st.data, h'.argsOf st.args)) =
      (h.state? t).map (fun st => (st.data, h.argsOf st.args)) :=
  callerOwned_congr g.args (g.states t ht)

theorem Shape.callerOwned {h h' : Heap} (sh : Shape h h') (t : Nat) :
    (h'.state? t).map (fun st => (st.data, h'.argsOf st.args)) =
      (h.state? t).map (fun st => (st.data, h.argsOf st.args)) :=
  callerOwned_congr sh.args (by simpa only [List.getElem?_map] using congrArg (·[t]?) sh.map_da)

theorem argsDeep_args (repaired : Bool) (h : Heap) (a : Nat) :
    ∃ x, (argsDeep repaired h a).2.args = h.args ++ [x] := by
  cases repaired <;> exact ⟨_, rfl⟩

theorem deepState_args (repaired : Bool) (h : Heap) (s : Nat) {a : Nat} (ha : a < h.args.length) :
    (deepState repaired h s).2.args[a]? = h.args[a]? := by
  unfold deepState
  split
  · rfl
  · rename_i st _
    -- the cluster copies leave the argument cells alone, the argument copy appends one
    obtain ⟨x, e⟩ := argsDeep_args repaired (clustersDeep st.clusters h).2 st.args
    have e1 : (clustersDeep st.clusters h).2.args = h.args := by
      rw [clustersDeep_eq]; exact (copyAll_grow _ _ _ _).args
    show (argsDeep repaired (clustersDeep st.clusters h).2 st.args).2.args[a]? = _
    rw [e, e1, List.getElem?_append_left ha]

/-! ### the initial model and the concrete witnesses -/

theorem allocEmptyClusters_eq (n : Nat) (h : Heap) :
    allocEmptyClusters n h =
      (List.range' h.clusters.length n,
        ⟨h.clusters ++ List.replicate n emptyCluster, h.args, h.states, h.next⟩) := by
  induction n generalizing h with
  | zero => simp [allocEmptyClusters]
  | succ n ih =>
    simp only [allocEmptyClusters, Heap.allocCluster, ih, List.length_append, List.length_singleton,
      List.range'_succ, List.replicate_succ, List.append_assoc, List.singleton_append]

theorem emptyModel_eq (h : Heap) (a : Nat) (data : Arr) :
    emptyModel h a data = (h.states.length,
      ⟨h.clusters ++ List.replicate (h.argsOf a).K emptyCluster, h.args,
        h.states ++ [⟨List.range' h.clusters.length (h.argsOf a).K, h.next, none, a, data, none,
          none⟩], h.next + 1⟩) := by
  simp only [emptyModel, allocEmptyClusters_eq, Heap.fresh, Heap.allocState]

theorem emptyModel_spec {h : Heap} (ho : Owned h) {a : Nat} (ha : a < h.args.length) (data : Arr) :
    Owned (emptyModel h a data).2 ∧ ∃ y, (emptyModel h a data).2.states[(emptyModel h a data).1]? =
      some y ∧ y.labels = none := by
  rw [emptyModel_eq]
  refine ⟨ho.snoc _ _ (List.nodup_range' 1) (fun r hr => ?_) (by simp) ha,
    _, List.getElem?_concat_length, rfl⟩
  rw [List.mem_range'_1] at hr
  simp only [List.length_replicate]
  omega

theorem Owned.nil (cl : List Cluster) (as : List Args) (nx : Nat) : Owned ⟨cl, as, [], nx⟩ := by
  have no_state : ∀ {s : Nat} {st : State} {p : Prop}, ([] : List State)[s]? = some st → p :=
    fun e => nomatch List.getElem?_nil.symm.trans e
  exact ⟨fun _ _ => no_state, fun _ _ _ _ _ => no_state, fun _ _ => no_state⟩

/-- the heap of `shallow_assign_hazard`: one state, one (empty) cluster, no labels yet. -/
def hazardHeap : Heap :=
  ⟨[emptyCluster], [⟨.scalar 0, .scalar 0, 1⟩], [⟨[0], 0, none, 0, ⟨1, 0⟩, none, none⟩], 2⟩

/-- the heap of `deepCopy_pinned_shares`: an array-valued sparsity weight. -/
def pinnedHeap : Heap :=
  ⟨[], [⟨.array ⟨0, 7⟩, .scalar 0, 0⟩], [⟨[], 1, none, 0, ⟨2, 0⟩, none, none⟩], 3⟩

theorem hazard_owned : Owned hazardHeap :=
  (Owned.nil [] _ 2).snoc [emptyCluster] 2 (by decide) (by decide) (by decide) (by decide)

theorem pinned_owned : Owned pinnedHeap :=
  (Owned.nil [] _ 3).snoc [] 3 (by decide) (by decide) (by decide) (by decide)

theorem hazard_inv : InvB hazardHeap 0 = true := by decide

theorem hazard_broken :
    InvB (assign (shallowState hazardHeap 0).2 (shallowState hazardHeap 0).1
      ((shallowState hazardHeap 0).2.next, [0, 0])) 0 = false := by decide

theorem pinned_shared :
    Obj.obj 0 ∈ reachable (deepState false pinnedHeap 0).2 (deepState false pinnedHeap 0).1 ∧
    Obj.obj 0 ∈ reachable (deepState false pinnedHeap 0).2 0 := by decide

/-! ### fitted clusters (the `Fitted` hypothesis of `deepCopy_same_view`) -/

def fitV (v : ClusterView) : Prop :=
  v.mean ≠ none ∧ v.empCov ≠ none ∧ v.trainInv ≠ none ∧ v.computedCov ≠ none

theorem fitV_clusterView (c : Cluster) : fitV (clusterView c) ↔ fitC c := by
  simp only [fitV, fitC, clusterView, ne_eq, Option.map_eq_none_iff]

theorem Fitted_iff_view (h : Heap) (s : Nat) :
    Fitted h s ↔ ∀ v, view h s = some v → ∀ cv ∈ v.clusters, fitV cv := by
  unfold Fitted view Heap.state?
  cases hs : h.states[s]? with
  | none => exact ⟨fun _ _ e => (nomatch e), fun _ _ e => (nomatch e)⟩
  | some st =>
    simp only [Option.map_some, Option.some.injEq, forall_eq', List.forall_mem_map]
    exact forall₂_congr fun r _ => (fitV_clusterView _).symm

theorem Fitted_of_view {h h' : Heap} {t : Nat} (e : view h' t = view h t) (hf : Fitted h t) :
    Fitted h' t := by
  rw [Fitted_iff_view] at hf ⊢
  rw [e]; exact hf

/-- the statistics phase supplies mean and empirical covariance, the optimisation phase keeps
them and supplies the MRF and the computed covariance. -/
theorem stats_opt_fitted {h : Heap} (ho : Owned h) {s : Nat} (hi : Inv h s) {s2 s3 : Nat}
    {h2 h3 : Heap} (e2 : statsPhase h s = (s2, h2)) (e3 : optPhase h2 s2 = (s3, h3)) :
    Fitted h3 s3 := by
  obtain ⟨x2, i2, -⟩ := stats_phase ho hi e2
  obtain ⟨st, hs⟩ := hi.get
  obtain ⟨_, F2, eq2⟩ := statsPhase_nf ho hs
  cases eq2.symm.trans e2
  obtain ⟨y, hy⟩ := i2.get
  have half := F2.cells (fun c => c.mean ≠ none ∧ c.empCov ≠ none)
    (fun _ _ _ => ⟨Option.some_ne_none _, Option.some_ne_none _⟩) hy
  obtain ⟨_, F3, eq3⟩ := optPhase_nf hy (x2.owned.wf _ y hy).2.1
  cases eq3.symm.trans e3
  exact fun _ => F3.cells fitC fun r hr _ =>
    ⟨(half r hr).1, (half r hr).2, Option.some_ne_none _, Option.some_ne_none _⟩

/-- the state handed on by the relabelling phase owns deep copies, whose arrays are all present. -/
theorem relabel_fitted {h : Heap} (ho : Owned h) {s : Nat} (hi : Inv h s)
    {newLabels : List Nat} {cost n : Nat} {h' : Heap}
    (e : relabelPhase h s newLabels cost = (n, h')) : Fitted h' n := by
  obtain ⟨st, hs⟩ := hi.get
  obtain ⟨hF, F, e'⟩ := relabelPhase_nf hs (ho.wf s st hs).2.1 newLabels cost
  have co := refreshScoring_CO h st.clusters (h.argsOf st.args).K
  cases e'.symm.trans e
  have hf : Fitted hF h.states.length := fun _ => co.states ▸ F.cells fitC
    fun _ _ _ => by simp [fitC, deepOf, copyArr]
  exact ((Local.fresh _ hF).trans ((assign_local _ _ _).trans (setCost_local _ _ cost))).fitted hf

end FastTicc.Heap
