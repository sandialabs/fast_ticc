/-
Helper lemmas for property C08 (repopulation).  What a run of refills does to a labelling is kept
as one relation, `Moved`: which clusters gave and which received `m` points, with multiplicity.
The accounting is one walk of the recipient loop under the invariant `Inv` (`refill_run`); what C08
says about cluster sizes is then read off the counts (`Moved.size_recipient`, `Moved.size_candidate`,
`Moved.size_bystander`).
-/
import FastTicc.Model.Repop
import FastTicc.Proofs.ListLemmas
import FastTicc.Proofs.Sort

namespace FastTicc.Repop
open FastTicc.Constants

/-! ### members / size -/

theorem mem_members {labels : List Nat} {k i : Nat} :
    i ∈ members labels k ↔ labels[i]? = some k := by
  simp only [members, List.mem_filter, List.mem_range, beq_iff_eq]
  constructor
  · exact fun h => h.2
  · intro h
    exact ⟨(List.getElem?_eq_some_iff.mp h).1, h⟩

theorem members_nodup (labels : List Nat) (k : Nat) : (members labels k).Nodup :=
  List.Pairwise.filter _ List.nodup_range

theorem size_eq_length_members (labels : List Nat) (k : Nat) :
    size labels k = (members labels k).length := by
  unfold size members
  rw [List.count_eq_countP, ← List.countP_eq_length_filter]
  induction labels with
  | nil => rfl
  | cons a l ih =>
    rw [List.length_cons, List.range_succ_eq_map, List.countP_cons, List.countP_cons,
      List.countP_map, ih]
    -- `(a :: l)[i + 1]?` computes to `l[i]?` and `(a :: l)[0]? == some k` to `a == k`
    rfl

/-! ### setLabels -/

theorem setLabels_cons (labels : List Nat) (p : Nat) (ps : List Nat) (k : Nat) :
    setLabels labels (p :: ps) k = setLabels (labels.set p k) ps k := rfl

theorem length_setLabels (labels pts : List Nat) (k : Nat) :
    (setLabels labels pts k).length = labels.length :=
  length_foldl_set (fun _ => k) pts labels

theorem getElem?_setLabels (labels pts : List Nat) (k i : Nat) :
    (setLabels labels pts k)[i]? =
      if i ∈ pts ∧ i < labels.length then some k else labels[i]? :=
  getElem?_foldl_set (fun _ => k) pts labels i

theorem mem_setLabels {labels pts : List Nat} {k l : Nat} (h : l ∈ setLabels labels pts k) :
    l = k ∨ l ∈ labels := by
  obtain ⟨i, hi⟩ := List.mem_iff_getElem?.mp h
  rw [getElem?_setLabels] at hi
  split at hi
  · exact Or.inl (Option.some.inj hi).symm
  · exact Or.inr (List.mem_iff_getElem?.mpr ⟨i, hi⟩)

/-- the counts `[d].count k`, `[e].count k` say for which `k` relabelling a point of `d` as `e` matters (and
cancel when `d = e`). -/
theorem count_set {l : List Nat} {p d : Nat} (h : l[p]? = some d) (e k : Nat) :
    (l.set p e).count k + [d].count k = l.count k + [e].count k := by
  obtain ⟨hlt, rfl⟩ := List.getElem?_eq_some_iff.mp h
  have hpos : [l[p]].count k ≤ l.count k :=
    List.Sublist.count_le k (List.singleton_sublist.mpr (List.getElem_mem hlt))
  -- `List.count_set` takes one off where `l[p] = k` (there is one, `hpos`) and adds one where `e = k`
  rw [List.count_set hlt, ← List.count_singleton, ← List.count_singleton, Nat.add_right_comm,
    Nat.sub_add_cancel hpos]

theorem count_setLabels {labels pts : List Nat} {d : Nat} (hn : pts.Nodup)
    (hd : ∀ p ∈ pts, labels[p]? = some d) (e k : Nat) :
    (setLabels labels pts e).count k + pts.length * [d].count k =
      labels.count k + pts.length * [e].count k := by
  induction pts generalizing labels with
  | nil => simp [setLabels]
  | cons p ps ih =>
    rw [List.nodup_cons] at hn
    have h1 := count_set (hd p List.mem_cons_self) e k
    have h2 := ih (labels := labels.set p e) hn.2 (fun q hq => by
      rw [List.getElem?_set_ne (fun h : p = q => hn.1 (h ▸ hq))]
      exact hd q (List.mem_cons_of_mem _ hq))
    rw [setLabels_cons, List.length_cons, Nat.succ_mul, Nat.succ_mul]
    omega

/-! ### the effect of a sequence of moves -/

/-- `L'` arises from `L` by moves of `m` points each: one out of a cluster for each of its
occurrences in `ds`, one into a cluster for each of its occurrences in `es`; a point whose label
changed came from a cluster of `ds` and ended in one of `es`. -/
structure Moved (m : Nat) (es ds L L' : List Nat) : Prop where
  len : L'.length = L.length
  sizes : ∀ k, size L' k + m * ds.count k = size L k + m * es.count k
  pos : ∀ i : Nat, L'[i]? ≠ L[i]? →
    ∃ a b, L[i]? = some a ∧ L'[i]? = some b ∧ a ∈ ds ∧ b ∈ es

theorem Moved.refl (m : Nat) (L : List Nat) : Moved m [] [] L L :=
  ⟨rfl, fun _ => rfl, fun _ h => absurd rfl h⟩

theorem Moved.trans {m : Nat} {es ds es' ds' L L1 L' : List Nat} (h1 : Moved m es ds L L1)
    (h2 : Moved m es' ds' L1 L') : Moved m (es ++ es') (ds ++ ds') L L' := by
  refine ⟨h2.len.trans h1.len, fun k => ?_, fun i hi => ?_⟩
  · have := h1.sizes k
    have := h2.sizes k
    rw [List.count_append, List.count_append, Nat.mul_add, Nat.mul_add]
    omega
  · -- the source is that of the first move of point `i`, the target that of the last
    by_cases e1 : L1[i]? = L[i]?
    · rw [← e1] at hi ⊢
      obtain ⟨a, b, ha, hb, had, hbe⟩ := h2.pos i hi
      exact ⟨a, b, ha, hb, List.mem_append_right _ had, List.mem_append_right _ hbe⟩
    · obtain ⟨a, b, ha, hb, had, hbe⟩ := h1.pos i e1
      by_cases e2 : L'[i]? = L1[i]?
      · exact ⟨a, b, ha, e2 ▸ hb, List.mem_append_left _ had, List.mem_append_left _ hbe⟩
      · obtain ⟨_, b', _, hb', _, hbe'⟩ := h2.pos i e2
        exact ⟨a, b', ha, hb', List.mem_append_left _ had, List.mem_append_right _ hbe'⟩

theorem moved_movePoints {L c : List Nat} {m : Nat} (d e : Nat) (hlen : c.length = m)
    (hnd : c.Nodup) (hlt : ∀ x ∈ c, x < size L d) : Moved m [e] [d] L (movePoints L d e c) := by
  simp only [size_eq_length_members L d] at hlt
  have hpd : ∀ p ∈ c.map (fun i => (members L d).getD i 0), L[p]? = some d := by
    intro p hp
    obtain ⟨i, hi, rfl⟩ := List.mem_map.mp hp
    have := hlt i hi
    rw [← mem_members, List.getD_eq_getElem?_getD, List.getElem?_eq_getElem this]
    exact List.getElem_mem _
  have hpn : (c.map (fun i => (members L d).getD i 0)).Nodup := by
    rw [List.Nodup, List.pairwise_map]
    refine List.Pairwise.imp_of_mem ?_ hnd
    intro a b ha hb hab h
    exact hab ((List.getD_inj (hlt a ha) (hlt b hb) (members_nodup L d)).mp h)
  refine ⟨length_setLabels _ _ _, fun k => ?_, fun i hi => ?_⟩
  · have := count_setLabels hpn hpd e k
    rwa [List.length_map, hlen] at this
  · unfold movePoints at hi ⊢
    rw [getElem?_setLabels] at hi ⊢
    split at hi
    · rename_i h
      exact ⟨d, e, hpd i h.1, if_pos h, List.mem_singleton_self d, List.mem_singleton_self e⟩
    · exact absurd rfl hi

/-! ### findDonor -/

theorem findDonor_nil (sz : Nat → Nat) (m : Nat) : findDonor sz m [] = none := by
  rw [findDonor]

/-- one round of `_find_point_donor`; `donorFactorFind`, `retireFactor` are the 2 and 3 of the source. -/
theorem findDonor_cons (sz : Nat → Nat) (m d : Nat) (rest : List Nat) :
    findDonor sz m (d :: rest) =
      if 2 * m ≤ sz d then (if sz d < 3 * m then some (d, rest) else some (d, d :: rest))
      else findDonor sz m (d :: rest).dropLast := by
  rw [findDonor]
  rfl

/-! ### the recipient loop -/

/-- the donors in ranking order, each repeated to capacity. -/
def donorSeq (m : Nat) (rem labels : List Nat) : List Nat :=
  rem.flatMap (fun d => List.replicate (size labels d / m - 1) d)

theorem donorSeq_cons (m d : Nat) (rest labels : List Nat) :
    donorSeq m (d :: rest) labels =
      List.replicate (size labels d / m - 1) d ++ donorSeq m rest labels := by
  simp [donorSeq]

theorem donorSeq_congr {m : Nat} {rem l1 l2 : List Nat}
    (h : ∀ r ∈ rem, size l1 r = size l2 r) : donorSeq m rem l1 = donorSeq m rem l2 := by
  induction rem with
  | nil => rfl
  | cons r rs ih =>
    simp only [donorSeq, List.flatMap_cons] at ih ⊢
    rw [h r List.mem_cons_self, ih (fun x hx => h x (List.mem_cons_of_mem _ hx))]

theorem length_donorSeq (m : Nat) (rem labels : List Nat) :
    (donorSeq m rem labels).length = (rem.map (fun d => size labels d / m - 1)).sum := by
  simp [donorSeq]

theorem mem_donorSeq {m x : Nat} {rem labels : List Nat} (h : x ∈ donorSeq m rem labels) :
    x ∈ rem := by
  simp only [donorSeq, List.mem_flatMap, List.mem_replicate] at h
  obtain ⟨a, ha, _, rfl⟩ := h
  exact ha

theorem count_donorSeq {m r : Nat} {rem : List Nat} (labels : List Nat) (hn : rem.Nodup)
    (hr : r ∈ rem) : (donorSeq m rem labels).count r = size labels r / m - 1 := by
  induction rem with
  | nil => simp at hr
  | cons d rest ih =>
    rw [List.nodup_cons] at hn
    rw [donorSeq_cons, List.count_append, List.count_replicate]
    rcases List.mem_cons.mp hr with rfl | hr
    · rw [List.count_eq_zero_of_not_mem (fun h => hn.1 (mem_donorSeq h))]
      simp
    · have : d ≠ r := fun h => hn.1 (h ▸ hr)
      rw [ih hn.2 hr]
      simp [this]

/-- loop invariant: recipients distinct, candidates distinct, no recipient is a candidate,
every candidate still holds at least `2m` points. -/
structure Inv (m : Nat) (es rem labels : List Nat) : Prop where
  es_nodup : es.Nodup
  rem_nodup : rem.Nodup
  disj : ∀ e ∈ es, e ∉ rem
  big : ∀ d ∈ rem, 2 * m ≤ size labels d

theorem Inv.mono {m : Nat} {es rem L es' rem' L1 : List Nat} (hI : Inv m es rem L)
    (hes : es'.Sublist es) (hrem : rem'.Sublist rem) (hbig : ∀ r ∈ rem', 2 * m ≤ size L1 r) :
    Inv m es' rem' L1 :=
  ⟨hI.es_nodup.sublist hes, hI.rem_nodup.sublist hrem,
    fun e he hr => hI.disj e (hes.subset he) (hrem.subset hr), hbig⟩

/-- under the invariant the capacity `⌊size / m⌋ - 1` of a candidate is a true difference. -/
theorem Inv.count_donorSeq_succ {m r : Nat} {es rem L : List Nat} (hI : Inv m es rem L) (hm : 1 ≤ m)
    (hr : r ∈ rem) : (donorSeq m rem L).count r + 1 = size L r / m := by
  rw [count_donorSeq L hI.rem_nodup hr]
  exact Nat.sub_add_cancel (Nat.le_of_succ_le ((Nat.le_div_iff_mul_le hm).mpr (hI.big r hr)))

theorem refill_step {m e d : Nat} {es rest L L1 : List Nat} (hm : 1 ≤ m)
    (hI : Inv m (e :: es) (d :: rest) L) (hM : Moved m [e] [d] L L1) :
    ∃ rem', findDonor (size L) m (d :: rest) = some (d, rem') ∧ Inv m es rem' L1 ∧
      donorSeq m (d :: rest) L = d :: donorSeq m rem' L1 := by
  have hbig := hI.big d List.mem_cons_self
  have hnd := List.nodup_cons.mp hI.rem_nodup
  have hde : e ≠ d := fun h => hI.disj e List.mem_cons_self (h ▸ List.mem_cons_self)
  have hd : size L1 d + m = size L d := by
    simpa [List.count_singleton, hde] using hM.sizes d
  have hrest : ∀ r ∈ rest, size L1 r = size L r := by
    intro r hr
    have hrd : d ≠ r := fun h => hnd.1 (h ▸ hr)
    have hre : e ≠ r := fun h => hI.disj e List.mem_cons_self (h ▸ List.mem_cons_of_mem _ hr)
    simpa [List.count_singleton, hrd, hre] using hM.sizes r
  have hbig' : ∀ r ∈ rest, 2 * m ≤ size L1 r := fun r hr => by
    rw [hrest r hr]; exact hI.big r (List.mem_cons_of_mem _ hr)
  have hq : size L d / m = size L1 d / m + 1 := by rw [← hd, Nat.add_div_right _ hm]
  rw [findDonor_cons, if_pos hbig, donorSeq_cons, hq, Nat.add_sub_cancel,
    ← donorSeq_congr hrest]
  -- in terms of what `d` keeps: at least `m`, and fewer than `2m` exactly when it is retired
  have hkeep : m ≤ size L1 d := by
    rw [← hd, Nat.two_mul] at hbig
    exact Nat.le_of_add_le_add_right hbig
  have hret : size L d < 3 * m ↔ size L1 d < 2 * m := by
    rw [← hd, Nat.succ_mul 2 m]
    exact Nat.add_lt_add_iff_right
  -- `d` stays a candidate exactly when it can give once more
  by_cases hlt : size L d < 3 * m
  · have h1 : size L1 d / m = 1 := Nat.div_eq_of_lt_le (by rwa [Nat.one_mul]) (hret.mp hlt)
    exact ⟨rest, if_pos hlt,
      hI.mono (List.sublist_cons_self e es) (List.sublist_cons_self d rest) hbig', by rw [h1]; rfl⟩
  · obtain ⟨n, hn⟩ := Nat.exists_eq_add_one.mpr (Nat.div_pos hkeep hm)
    refine ⟨d :: rest, if_neg hlt,
      hI.mono (List.sublist_cons_self e es) (List.Sublist.refl _) (fun r hr => ?_), ?_⟩
    · rcases List.mem_cons.mp hr with rfl | hr
      · exact Nat.le_of_not_lt (mt hret.mpr hlt)
      · exact hbig' r hr
    · rw [donorSeq_cons, hn, Nat.add_sub_cancel, List.replicate_succ]
      rfl

theorem refill_run {m : Nat} {pick : Nat → Nat → List Nat} (hm : 1 ≤ m) (hp : ValidPick m pick)
    (es : List Nat) : ∀ (rem L : List Nat) (s : Nat), Inv m es rem L →
    refillDonors m pick es rem L s = (donorSeq m rem L).take es.length ∧
    ((refillTrace m pick es rem L s).2 = true ↔ es.length ≤ (donorSeq m rem L).length) ∧
    Moved m (es.take (donorSeq m rem L).length) ((donorSeq m rem L).take es.length) L
      (refillTrace m pick es rem L s).1 := by
  induction es with
  | nil =>
    intro rem L s _
    refine ⟨rfl, by simp [refillTrace], ?_⟩
    rw [List.take_nil]
    exact Moved.refl m L
  | cons e es ih =>
    intro rem L s hI
    cases rem with
    | nil =>
      simp only [refillDonors, refillTrace, findDonor_nil]
      exact ⟨rfl, by simp [donorSeq], Moved.refl m L⟩
    | cons d rest =>
      have hbig := hI.big d List.mem_cons_self
      obtain ⟨p1, p2, p3⟩ := hp s (size L d) (by omega)
      have hM := moved_movePoints d e p1 p2 p3
      obtain ⟨rem', hf, hI', hseq⟩ := refill_step hm hI hM
      obtain ⟨h1, h2, h3⟩ := ih rem' _ (s + 1) hI'
      simp only [refillDonors, refillTrace, hf, hseq, List.length_cons, List.take_succ_cons,
        Nat.add_le_add_iff_right]
      exact ⟨congrArg _ h1, h2, hM.trans h3⟩

theorem refill_eq_trace (m : Nat) (pick : Nat → Nat → List Nat) (es : List Nat) :
    ∀ (rem L : List Nat) (s : Nat), refill m pick es rem L s =
      if (refillTrace m pick es rem L s).2 then some (refillTrace m pick es rem L s).1 else none := by
  induction es with
  | nil => intro rem L s; rfl
  | cons e es ih =>
    intro rem L s
    cases hf : findDonor (size L) m rem with
    | none => simp only [refillTrace, refill, hf]; rfl
    | some p => simp only [refillTrace, refill, hf]; exact ih _ _ _

theorem refill_valid (K m : Nat) (pick : Nat → Nat → List Nat) :
    ∀ (order rem labels : List Nat) (st : Nat) (labels' : List Nat),
      (∀ e ∈ order, e < K) → (∀ l ∈ labels, l < K) →
      refill m pick order rem labels st = some labels' →
      labels'.length = labels.length ∧ ∀ l ∈ labels', l < K := by
  intro order
  induction order with
  | nil =>
    intro rem labels st labels' _ hl h
    cases h
    exact ⟨rfl, hl⟩
  | cons e es ih =>
    intro rem labels st labels' ho hl h
    rw [refill] at h
    split at h
    · cases h
    obtain ⟨a, b⟩ := ih _ _ _ _ (fun x hx => ho x (List.mem_cons_of_mem _ hx))
      (fun l hmem => (mem_setLabels hmem).elim (fun h1 => h1 ▸ ho e List.mem_cons_self) (hl l)) h
    exact ⟨a.trans (length_setLabels _ _ _), b⟩

/-! ### the accounting of `Moved`, read cluster by cluster

Under the invariant, for donors `ds` taken from `donorSeq` in order: a recipient occurs once among the
recipients and never in `ds`, a candidate never among the recipients and at most `⌊size / m⌋ - 1`
times in `ds`, and nobody else occurs at all. -/

section sizes
variable {m : Nat} {es rem L ds L' : List Nat} (hds : ds.Sublist (donorSeq m rem L))
  (h : Moved m es ds L L')
include hds h

theorem Moved.size_bystander {k : Nat} (hke : k ∉ es) (hkr : k ∉ rem) : size L' k = size L k := by
  have := h.sizes k
  rw [List.count_eq_zero_of_not_mem hke,
    List.count_eq_zero_of_not_mem (fun hd => hkr (mem_donorSeq (hds.subset hd)))] at this
  omega

variable (hI : Inv m es rem L)
include hI

theorem Moved.size_recipient {e : Nat} (he : e ∈ es) : size L' e = size L e + m := by
  have := h.sizes e
  rwa [hI.es_nodup.count, if_pos he, Nat.mul_one,
    List.count_eq_zero_of_not_mem (fun hd => hI.disj e he (mem_donorSeq (hds.subset hd))),
    Nat.mul_zero, Nat.add_zero] at this

theorem Moved.size_candidate (hm : 1 ≤ m) {r : Nat} (hr : r ∈ rem) :
    m ≤ size L' r ∧ size L r = size L' r + ds.count r * m := by
  have hS := h.sizes r
  rw [List.count_eq_zero_of_not_mem (fun he => hI.disj r he hr), Nat.mul_zero, Nat.add_zero,
    Nat.mul_comm] at hS
  -- `r` gave fewer than `⌊size / m⌋` times, so `m` more than it gave still fits into its old size
  have hq : ds.count r + 1 ≤ size L r / m := hI.count_donorSeq_succ hm hr ▸ Nat.succ_le_succ (hds.count_le r)
  have hc : (ds.count r + 1) * m ≤ size L r :=
    Nat.le_trans (Nat.mul_le_mul_right m hq) (Nat.div_mul_le_self _ _)
  rw [Nat.succ_mul, ← hS, Nat.add_comm] at hc
  exact ⟨Nat.le_of_add_le_add_right hc, hS.symm⟩

end sizes

section loop
variable {m : Nat} {pick : Nat → Nat → List Nat} (hm : 1 ≤ m) (hp : ValidPick m pick)
  {es rem L : List Nat} (hI : Inv m es rem L) (s : Nat)
include hm hp hI

theorem refillDonors_eq :
    refillDonors m pick es rem L s = (donorSeq m rem L).take es.length :=
  (refill_run hm hp es rem L s hI).1

theorem refill_none_iff :
    refill m pick es rem L s = none ↔ (donorSeq m rem L).length < es.length := by
  rw [refill_eq_trace, ← Nat.not_le, ← (refill_run hm hp es rem L s hI).2.1]
  cases (refillTrace m pick es rem L s).2 <;> simp

theorem refill_moved {L' : List Nat} (h : refill m pick es rem L s = some L') :
    Moved m es ((donorSeq m rem L).take es.length) L L' := by
  obtain ⟨-, h2, h3⟩ := refill_run hm hp es rem L s hI
  rw [refill_eq_trace] at h
  split at h
  · rename_i ht
    cases h
    rwa [List.take_of_length_le (h2.mp ht)] at h3
  · cases h

theorem refillTrace_no_donor_left (hm2 : 2 ≤ m) (hsmall : ∀ e ∈ es, size L e < 2)
    (herr : (refillTrace m pick es rem L s).2 = false) {k : Nat}
    (hk : k ∉ rem → size L k < 2 * m) : size (refillTrace m pick es rem L s).1 k < 2 * m := by
  obtain ⟨-, h2, h3⟩ := refill_run hm hp es rem L s hI
  have hlen : ¬ es.length ≤ (donorSeq m rem L).length := fun h => by
    rw [h2.mpr h] at herr
    cases herr
  -- the donors ran out: all of `donorSeq` was used, on the first recipients
  rw [List.take_of_length_le (Nat.le_of_not_le hlen)] at h3
  have hI' := hI.mono (List.take_sublist (donorSeq m rem L).length es) (List.Sublist.refl _) hI.big
  by_cases hke : k ∈ es.take (donorSeq m rem L).length
  · -- a recipient had fewer than `2 ≤ m` points and gained `m`
    rw [h3.size_recipient (List.Sublist.refl _) hI' hke, Nat.two_mul]
    exact Nat.add_lt_add_right (Nat.lt_of_lt_of_le (hsmall k (List.mem_of_mem_take hke)) hm2) m
  · by_cases hkr : k ∈ rem
    · -- a candidate has given `⌊size / m⌋ - 1` times
      have hS := (h3.size_candidate (List.Sublist.refl _) hI' hm hkr).2
      have hlt : size L k < ((donorSeq m rem L).count k + 1) * m + m :=
        hI.count_donorSeq_succ hm hkr ▸ Nat.lt_div_mul_add hm
      -- what it gave cancels: `hlt : c * m + size L' k < c * m + 2 * m`
      rw [Nat.succ_mul, hS, Nat.add_comm, Nat.add_assoc, ← Nat.two_mul] at hlt
      exact Nat.lt_of_add_lt_add_left hlt
    · rw [h3.size_bystander (List.Sublist.refl _) hke hkr]
      exact hk hkr

end loop

/-! ### the ranking -/

section ranking
variable {α : Type} [LT α] [DecidableLT α]

theorem insertDesc_eq (spread : Nat → α) (x : Nat) (l : List Nat) :
    insertDesc spread x l = Py.insertDescBy spread x l := by
  induction l with
  | nil => rfl
  | cons y t ih => simp only [insertDesc, Py.insertDescBy, ih]

/-- `donorFactor` is the 2 of the source. -/
theorem rankedDonors_eq (spread : Nat → α) (K m : Nat) (labels : List Nat) :
    rankedDonors spread K m labels
      = Py.sortedDescBy spread ((List.range K).filter (fun i => decide (2 * m ≤ size labels i))) := by
  unfold rankedDonors Py.sortedDescBy
  congr 1
  funext x l
  exact insertDesc_eq spread x l

theorem mem_rankedDonors (spread : Nat → α) (K m : Nat) (labels : List Nat) (d : Nat) :
    d ∈ rankedDonors spread K m labels ↔ d < K ∧ 2 * m ≤ size labels d := by
  rw [rankedDonors_eq, (PySort.sortedDescBy_perm spread _).mem_iff, List.mem_filter, List.mem_range,
    decide_eq_true_iff]

theorem rankedDonors_nodup (spread : Nat → α) (K m : Nat) (labels : List Nat) :
    (rankedDonors spread K m labels).Nodup := by
  rw [rankedDonors_eq, (PySort.sortedDescBy_perm spread _).nodup_iff]
  exact List.Pairwise.filter _ List.nodup_range

end ranking

theorem rankedDonors_sorted {α : Type} [LinearOrder α] (spread : Nat → α) (K m : Nat) (labels : List Nat) :
    (rankedDonors spread K m labels).Pairwise
      (fun a b => spread b < spread a ∨ (spread a = spread b ∧ a < b)) := by
  rw [rankedDonors_eq]
  exact PySort.sortedDescBy_lex spread (· < ·) _ (List.Pairwise.filter _ List.pairwise_lt_range)

/-! ### `repopulate` in terms of the loop -/

/-- `emptyBelow` is the 2 of the source. -/
theorem mem_needy (K : Nat) (labels : List Nat) (e : Nat) :
    e ∈ needy K labels ↔ e < K ∧ size labels e < 2 := by
  unfold needy
  rw [List.mem_filter, List.mem_range, decide_eq_true_iff]
  exact Iff.rfl

theorem needy_nodup (K : Nat) (labels : List Nat) : (needy K labels).Nodup :=
  List.Pairwise.filter _ List.nodup_range

section top
variable {α : Type} [LT α] [DecidableLT α]

theorem inv_init (spread : Nat → α) {K m : Nat} {order labels : List Nat} (hm : 1 ≤ m)
    (ho : order.Perm (needy K labels)) :
    Inv m order (rankedDonors spread K m labels) labels := by
  refine ⟨ho.nodup_iff.mpr (needy_nodup K labels), rankedDonors_nodup spread K m labels, ?_, ?_⟩
  · intro e he hr
    have h1 := ((mem_needy K labels e).mp (ho.mem_iff.mp he)).2
    have h2 := ((mem_rankedDonors spread K m labels e).mp hr).2
    omega
  · intro d hd
    exact ((mem_rankedDonors spread K m labels d).mp hd).2

/-- `repopulate` and `donorsUsed` skip the loop when nobody is needy; the loop on no recipients
does the same. -/
theorem ite_needy_nil {β : Type} {K : Nat} {order labels : List Nat}
    (ho : order.Perm (needy K labels)) (f : List Nat → β) :
    (if needy K labels = [] then f [] else f order) = f order := by
  split
  · rename_i h
    rw [h] at ho
    rw [ho.eq_nil]
  · rfl

theorem repopulate_eq (spread : Nat → α) {K : Nat} (m : Nat) (pick : Nat → Nat → List Nat)
    {order labels : List Nat} (ho : order.Perm (needy K labels)) :
    repopulate K m spread pick order labels =
      refill m pick order (rankedDonors spread K m labels) labels 0 :=
  ite_needy_nil ho (fun o => refill m pick o (rankedDonors spread K m labels) labels 0)

theorem donorsUsed_eq (spread : Nat → α) {K : Nat} (m : Nat) (pick : Nat → Nat → List Nat)
    {order labels : List Nat} (ho : order.Perm (needy K labels)) :
    donorsUsed K m spread pick order labels =
      refillDonors m pick order (rankedDonors spread K m labels) labels 0 :=
  ite_needy_nil ho (fun o => refillDonors m pick o (rankedDonors spread K m labels) labels 0)

theorem repopulate_valid (K m : Nat) (spread : Nat → α) (pick : Nat → Nat → List Nat)
    (order labels labels' : List Nat) (ho : ∀ e ∈ order, e < K) (hl : ∀ l ∈ labels, l < K)
    (h : repopulate K m spread pick order labels = some labels') :
    labels'.length = labels.length ∧ ∀ l ∈ labels', l < K := by
  unfold repopulate at h
  split at h
  · cases h
    exact ⟨rfl, hl⟩
  · exact refill_valid K m pick order _ labels 0 labels' ho hl h

theorem repopulate_moved (spread : Nat → α) {K m : Nat} {pick : Nat → Nat → List Nat}
    {order labels labels' : List Nat} (hm : 1 ≤ m) (hp : ValidPick m pick)
    (ho : order.Perm (needy K labels))
    (h : repopulate K m spread pick order labels = some labels') :
    Moved m order ((donorSeq m (rankedDonors spread K m labels) labels).take order.length)
      labels labels' := by
  rw [repopulate_eq spread m pick ho] at h
  exact refill_moved hm hp (inv_init spread hm ho) 0 h

end top

end FastTicc.Repop
