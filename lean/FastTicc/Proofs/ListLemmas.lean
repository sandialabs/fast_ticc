/-
General list lemmas, core Lean only.  Indexing into `(List.range n).flatMap f`, the concatenation of the
blocks `f 0, …, f (n-1)` (the stacked rows of C10, the row-major upper triangle of C11); lookups with a
default, and a list as the table of its own lookups; what a run of `List.set` writes leaves in each cell
(the relabelling of C08, the task slots and the likelihood table of C14 / C15); grouping a list by a key (the
per-cluster lists of C06, the member lists of C17).
-/
namespace FastTicc

/-! ### blocks over `List.range` -/

theorem getElem?_flatMap_range {β : Type _} (f : Nat → List β) {n r k : Nat} (hr : r < n)
    (hk : k < (f r).length) :
    ((List.range n).flatMap f)[((List.range r).flatMap f).length + k]? = (f r)[k]? := by
  obtain ⟨d, rfl⟩ : ∃ d, n = r + (d + 1) := ⟨n - r - 1, by omega⟩
  rw [List.range_add, List.flatMap_append, List.range_succ_eq_map, List.map_cons,
    List.flatMap_cons, List.getElem?_append_right (Nat.le_add_right _ _),
    Nat.add_sub_cancel_left, Nat.add_zero]
  exact List.getElem?_append_left hk

theorem length_flatMap_range {β : Type _} (f : Nat → List β) (N W : Nat)
    (h : ∀ j, j < W → (f j).length = N) : ((List.range W).flatMap f).length = W * N := by
  induction W with
  | zero => simp
  | succ W ih =>
    simp [List.range_succ, List.flatMap_append, ih (fun j hj => h j (Nat.lt_succ_of_lt hj)),
      h W (Nat.lt_succ_self W), Nat.succ_mul]

theorem getElem?_flatMap_range_mul {β : Type _} (f : Nat → List β) (N W : Nat)
    (h : ∀ j, j < W → (f j).length = N) (j k : Nat) (hj : j < W) (hk : k < N) :
    ((List.range W).flatMap f)[j * N + k]? = (f j)[k]? := by
  rw [← length_flatMap_range f N j (fun i hi => h i (Nat.lt_trans hi hj))]
  exact getElem?_flatMap_range f hj (by rw [h j hj]; exact hk)

theorem map_range_mul {β : Type _} (N : Nat) (f : Nat → β) : ∀ W,
    (List.range (N * W)).map f = (List.range W).flatMap (fun j => (List.range N).map (fun k => f (j * N + k)))
  | 0 => by simp
  | W + 1 => by
    rw [Nat.mul_succ, List.range_add, List.map_append, map_range_mul N f W, List.range_succ,
      List.flatMap_append]
    simp [Nat.mul_comm]

theorem getElem?_map_range_eq_some {β : Type _} (K : Nat) (g : Nat → β) (k : Nat) (c : β) :
    ((List.range K).map g)[k]? = some c ↔ k < K ∧ g k = c := by
  rw [List.getElem?_map]
  by_cases hk : k < K
  · simp [hk]
  · rw [List.getElem?_eq_none (by simp; omega)]
    simp [hk]

/-! ### lookups with a default -/

theorem getD_eq_getElem {β : Type _} (l : List β) (d : β) {i : Nat} (h : i < l.length) :
    l.getD i d = l[i] := by
  rw [List.getD_eq_getElem?_getD, List.getElem?_eq_getElem h, Option.getD_some]

theorem getD_of_forall_mem {β : Type _} {P : β → Prop} {l : List β} {d : β} (hl : ∀ x ∈ l, P x) (hd : P d)
    (i : Nat) : P (l.getD i d) := by
  rw [List.getD_eq_getElem?_getD]
  cases h : l[i]? with
  | none => exact hd
  | some x => exact hl x (List.mem_of_getElem? h)

theorem getD_map_range {β : Type _} (f : Nat → β) (d : β) {K c : Nat} (hc : c < K) :
    ((List.range K).map f).getD c d = f c := by
  simp [List.getD_eq_getElem?_getD, hc]

theorem getD_replicate_self {β : Type _} (d : β) (K c : Nat) :
    (List.replicate K d).getD c d = d := by
  simp only [List.getD_eq_getElem?_getD, List.getElem?_replicate]
  split <;> rfl

theorem map_getD_range {β : Type _} (l : List β) (d : β) :
    (List.range l.length).map (fun i => l.getD i d) = l := by
  apply List.ext_getElem
  · simp
  · intro i h1 h2
    simp [List.getD_eq_getElem?_getD, List.getElem?_eq_getElem h2]

/-! ### a run of writes -/

theorem length_foldl_set {β : Type _} (g : Nat → β) (order : List Nat) (init : List β) :
    (order.foldl (fun t i => t.set i (g i)) init).length = init.length := by
  induction order generalizing init with
  | nil => rfl
  | cons i order ih => rw [List.foldl_cons, ih, List.length_set]

theorem getElem?_foldl_set {β : Type _} (g : Nat → β) (order : List Nat) (init : List β) (j : Nat) :
    (order.foldl (fun t i => t.set i (g i)) init)[j]? =
      if j ∈ order ∧ j < init.length then some (g j) else init[j]? := by
  induction order generalizing init with
  | nil => simp
  | cons i order ih =>
    rw [List.foldl_cons, ih, List.length_set, List.getElem?_set]
    by_cases hij : i = j
    · -- the first write is to cell `j` itself; later writes put the same value there
      subst hij
      by_cases hl : i < init.length <;> simp [hl]
    · simp only [if_neg hij, List.mem_cons, Ne.symm hij, false_or]

/-! ### grouping by key -/

theorem filter_or_perm {β : Type _} (p q : β → Bool) (hpq : ∀ x, p x = true → q x = false) (l : List β) :
    (l.filter p ++ l.filter q).Perm (l.filter (fun x => p x || q x)) := by
  induction l with
  | nil => exact .nil
  | cons x xs ih =>
    cases hp : p x
    · cases hq : q x
      · simpa only [List.filter_cons, hp, hq, Bool.or_self, Bool.false_eq_true, if_false] using ih
      · simp only [List.filter_cons, hp, hq, Bool.or_true, Bool.false_eq_true, if_false, if_true]
        exact List.perm_middle.trans (ih.cons x)
    · simp only [List.filter_cons, hp, hpq x hp, Bool.or_false, Bool.false_eq_true, if_false,
        if_true, List.cons_append]
      exact ih.cons x

theorem flatMap_filter_perm {β γ : Type _} [BEq γ] [LawfulBEq γ] (key : β → γ) (l : List β) :
    ∀ ks : List γ, ks.Nodup →
      (ks.flatMap fun k => l.filter (fun x => key x == k)).Perm
        (l.filter (fun x => ks.contains (key x)))
  | [], _ => by simp
  | k :: ks, h => by
    obtain ⟨hk, hks⟩ := List.nodup_cons.mp h
    rw [List.flatMap_cons]
    refine ((flatMap_filter_perm key l ks hks).append_left _).trans ?_
    -- the two filters are disjoint because `k ∉ ks`
    refine (filter_or_perm _ _ ?_ l).trans (List.Perm.of_eq (List.filter_congr ?_))
    · intro x hx
      rw [beq_iff_eq] at hx
      rw [hx, List.contains_eq_mem, decide_eq_false hk]
    · intro x _
      rw [List.contains_cons]

end FastTicc
