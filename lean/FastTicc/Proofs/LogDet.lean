/-
Concavity of `log det` on the positive definite cone (first-order form), over Mathlib's real
matrices: `log det Y − log det X ≤ tr(X⁻¹ (Y − X))`.  This is the one analytic fact the soundness of
the graphical-lasso KKT certificate needs (Props/C02opt.lean).

Proof: whiten `X` with `C = U diag(1/√e)` from the spectral theorem (`Cᴴ X C = 1`); then
`A = Cᴴ Y C` is positive definite with `det A = det Y / det X` and `tr A = tr(X⁻¹ Y)`, and
`log det A = Σ log μ_i ≤ Σ (μ_i − 1) = tr A − n` over the (positive) eigenvalues of `A`.
-/
import Mathlib.Analysis.Matrix.Spectrum
import Mathlib.Analysis.Matrix.PosDef
import Mathlib.Analysis.SpecialFunctions.Log.Basic
import Mathlib.Analysis.SpecialFunctions.Sqrt

namespace FastTicc.LogDet
open Matrix
variable {n : Type*} [Fintype n] [DecidableEq n]

theorem exists_whitening {X : Matrix n n ℝ} (hX : X.PosDef) : ∃ C : Matrix n n ℝ, Cᴴ * X * C = 1 := by
  set U : Matrix n n ℝ := (hX.1.eigenvectorUnitary : Matrix n n ℝ)
  set e := hX.1.eigenvalues
  have hdiag : star U * X * U = diagonal e := by
    have := hX.1.conjStarAlgAut_star_eigenvectorUnitary
    rwa [Unitary.conjStarAlgAut_star_apply, RCLike.ofReal_real_eq_id, Function.id_comp] at this
  -- scale the eigenvector basis by `1/√e`: `(U D)ᴴ X (U D) = D (Uᴴ X U) D = D diag(e) D`
  refine ⟨U * diagonal (fun i => (Real.sqrt (e i))⁻¹), ?_⟩
  have : (U * diagonal fun i => (Real.sqrt (e i))⁻¹)ᴴ * X * (U * diagonal fun i => (Real.sqrt (e i))⁻¹)
      = diagonal (fun i => (Real.sqrt (e i))⁻¹) * (star U * X * U) * diagonal fun i => (Real.sqrt (e i))⁻¹ := by
    rw [conjTranspose_mul, diagonal_conjTranspose, star_trivial, star_eq_conjTranspose]
    simp only [Matrix.mul_assoc]
  rw [this, hdiag, diagonal_mul_diagonal, diagonal_mul_diagonal, ← diagonal_one]
  congr 1
  funext i
  rw [mul_assoc, ← div_eq_mul_inv, Real.div_sqrt,
    inv_mul_cancel₀ (Real.sqrt_pos.mpr (hX.eigenvalues_pos i)).ne']

/-- `log det A ≤ tr A − n`, from `log t ≤ t − 1` on the eigenvalues. -/
theorem log_det_le_trace_sub {A : Matrix n n ℝ} (hA : A.PosDef) :
    Real.log A.det ≤ A.trace - (Fintype.card n : ℝ) := by
  have hd := hA.1.det_eq_prod_eigenvalues
  have ht := hA.1.trace_eq_sum_eigenvalues
  simp only [RCLike.ofReal_real_eq_id, id_eq] at hd ht
  rw [hd, ht, Real.log_prod (fun i _ => (hA.eigenvalues_pos i).ne')]
  rw [← Finset.card_univ, Finset.cast_card, ← Finset.sum_sub_distrib]
  exact Finset.sum_le_sum (fun i _ => Real.log_le_sub_one_of_pos (hA.eigenvalues_pos i))

/-- first-order concavity of `log det` on the positive definite cone:
`log det Y − log det X ≤ tr(X⁻¹ (Y − X))`. -/
theorem log_det_concave {X Y : Matrix n n ℝ} (hX : X.PosDef) (hY : Y.PosDef) :
    Real.log Y.det - Real.log X.det ≤ (X⁻¹ * (Y - X)).trace := by
  obtain ⟨C, hC⟩ := exists_whitening hX
  have hXpos := hX.det_pos
  have hCunit : IsUnit C.det := isUnit_det_of_left_inverse hC
  have hA : (Cᴴ * Y * C).PosDef :=
    hY.conjTranspose_mul_mul_same (mulVec_injective_iff_isUnit.mpr ((isUnit_iff_isUnit_det C).mpr hCunit))
  have hdet1 : C.det * X.det * C.det = 1 := by
    have := congrArg det hC
    rwa [det_mul, det_mul, det_conjTranspose, star_trivial, det_one] at this
  have hdetA : (Cᴴ * Y * C).det = Y.det / X.det := by
    rw [det_mul, det_mul, det_conjTranspose, star_trivial, eq_div_iff hXpos.ne']
    linear_combination Y.det * hdet1
  -- `Cᴴ X` is a left inverse of `C`, hence a right inverse, so `C Cᴴ` inverts `X`
  have hinv : X⁻¹ = C * Cᴴ :=
    inv_eq_left_inv (by rw [Matrix.mul_assoc]; exact mul_eq_one_comm.1 hC)
  have htr : (Cᴴ * Y * C).trace = (X⁻¹ * Y).trace := by
    rw [trace_mul_cycle, hinv, Matrix.mul_assoc]
  have hmain := log_det_le_trace_sub hA
  rw [hdetA, Real.log_div hY.det_pos.ne' hXpos.ne', htr] at hmain
  rwa [Matrix.mul_sub, trace_sub, nonsing_inv_mul _ (isUnit_iff_ne_zero.mpr hXpos.ne'), trace_one]

end FastTicc.LogDet
